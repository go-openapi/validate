/-
  Verdict (`ok`) and panic-flag algebra of `Res` operations, in simp-normal form.
-/
import VM.Proofs.ResultLemmas
import VM.Impl.Schema
namespace VM
open Impl

def Res.ok (r : Res) : Bool := r.errors.isEmpty

def good (r : Res) (g : Bool) : Prop := r.panicked = false ∧ r.ok = g

theorem errors_isEmpty (r : Res) : r.errors.isEmpty = r.ok := rfl

@[simp] theorem ok_mk (e w : List Msg) (m : Int) (p : Bool) :
    (Res.mk e w m p).ok = e.isEmpty := rfl

@[simp] theorem ok_default : ({} : Res).ok = true := rfl
@[simp] theorem panicked_default : ({} : Res).panicked = false := rfl

theorem filterMap_map_some_isEmpty (l : List Msg) : ((l.map some).filterMap id).isEmpty = l.isEmpty := by
  cases l <;> rfl

@[simp] theorem ok_mergeOne (r o : Res) : (r.mergeOne o).ok = (r.ok && o.ok) :=
  (addMsgs_isEmpty _ _).trans (congrArg _ (filterMap_map_some_isEmpty _))

@[simp] theorem panicked_mergeOne (r o : Res) :
    (r.mergeOne o).panicked = (r.panicked || o.panicked) := rfl

@[simp] theorem ok_inc (r : Res) : r.inc.ok = r.ok := rfl
@[simp] theorem panicked_inc (r : Res) : r.inc.panicked = r.panicked := rfl

@[simp] theorem ok_addErrors (r : Res) (es : List (Option Msg)) :
    (r.addErrors es).ok = (r.ok && (es.filterMap id).isEmpty) :=
  addMsgs_isEmpty _ _

@[simp] theorem panicked_addErrors (r : Res) (es : List (Option Msg)) :
    (r.addErrors es).panicked = r.panicked := rfl

theorem ok_addErrors_map {α : Type} (r : Res) (l : List α) (f : α → Option Msg) :
    (r.addErrors (l.map f)).ok = (r.ok && l.all fun a => (f a).isNone) := by
  rw [ok_addErrors, List.filterMap_map, Bool.eq_iff_iff]
  simp only [Bool.and_eq_true, List.isEmpty_iff, List.filterMap_eq_nil_iff, List.all_eq_true, Option.isNone_iff_eq_none,
    Function.comp_apply, id_eq]

theorem ok_condErr (r : Res) (c : Bool) (e : Msg) : (if c = true then r.addErrors [some e] else r).ok = (r.ok && !c) := by
  cases c <;> simp

def okOpt : Option Res → Bool
  | some o => o.ok | none => true
def panickedOpt : Option Res → Bool
  | some o => o.panicked | none => false

@[simp] theorem okOpt_some (o : Res) : okOpt (some o) = o.ok := rfl
@[simp] theorem okOpt_none : okOpt none = true := rfl
@[simp] theorem panickedOpt_some (o : Res) : panickedOpt (some o) = o.panicked := rfl
@[simp] theorem panickedOpt_none : panickedOpt none = false := rfl

@[simp] theorem ok_merge (r : Res) (os : List (Option Res)) :
    (r.merge os).ok = (r.ok && os.all okOpt) := by
  rw [Res.merge_eq_foldl, foldl_and ok_mergeOne, List.all_filterMap]
  congr; funext o; cases o <;> rfl

@[simp] theorem panicked_merge (r : Res) (os : List (Option Res)) :
    (r.merge os).panicked = (r.panicked || os.any panickedOpt) := by
  rw [Res.merge_eq_foldl, foldl_or panicked_mergeOne, List.any_filterMap]
  congr; funext o; cases o <;> rfl

@[simp] theorem ok_sErr (e : Msg) : (sErr e).ok = false := rfl
@[simp] theorem panicked_sErr (e : Msg) : (sErr e).panicked = false := rfl
theorem ok_ite_sErr (c : Prop) [Decidable c] (e : Msg) (r : Res) : (if c then sErr e else r).ok = (!decide c && r.ok) := by
  split <;> simp [*]

@[simp] theorem ok_emptyResult : emptyResult.ok = true := rfl
@[simp] theorem panicked_emptyResult : emptyResult.panicked = false := rfl
@[simp] theorem ok_absorb (r o : Res) : (absorb r o).ok = r.ok := rfl
@[simp] theorem panicked_absorb (r o : Res) : (absorb r o).panicked = (r.panicked || o.panicked) := rfl

@[simp] theorem ok_step (a : Bool) (res : Option Res) (acc : Res) :
    (step a res acc).ok = (acc.ok && (!a || okOpt res)) := by
  unfold step; cases a <;> simp

@[simp] theorem panicked_step (a : Bool) (res : Option Res) (acc : Res) :
    (step a res acc).panicked = (acc.panicked || (a && panickedOpt res)) := by
  unfold step; cases a <;> simp

end VM
