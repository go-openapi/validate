/-
  C17, location: every error the validator tree reports is *under the root path it was given* — its name is the
  root path extended by the members / indices walked through — or carries no name at all (the two composite
  messages without a path: "array doesn't allow for additional items", and the model's fuel marker).
  For every schema, instance, oracle, configuration; options without the Swagger pre-checks (whose two
  messages name the missing keyword, not the location).
-/
import VM.Proofs.Invariant
namespace VM
open Impl

def Under (path : String) (m : Msg) : Prop := pre path m.name ∨ m.name = ""

def Loc (path : String) (r : Res) : Prop := ∀ m ∈ r.errors, Under path m

def LV (f : V) : Prop := ∀ p x, Loc p (f p x)

theorem mem_headerRefErrors {path : String} {x : JVal} {m : Msg} :
    some m ∈ headerRefErrors path x ↔ ∃ headers hk hs ref, x = .obj headers ∧ (hk, JVal.obj hs) ∈ headers ∧
      alookup "$ref" hs = some (.str ref) ∧ m = eRefInHeader path hk (", one may not use $ref=\":" ++ ref ++ "\"") := by
  cases x with
  | obj headers =>
    simp only [headerRefErrors, List.mem_map, JVal.obj.injEq, exists_and_left, exists_eq_left', Prod.exists]
    constructor
    · rintro ⟨hk, hb, hmem, heq⟩
      split at heq
      · split at heq
        · cases heq; exact ⟨_, _, hmem, _, ‹_›, rfl⟩
        · cases heq
      · cases heq
    · rintro ⟨hk, hs, hmem, ref, hl, rfl⟩
      exact ⟨hk, _, hmem, by simp only [hl]⟩
  | _ => simp [headerRefErrors]

theorem headerRefErrors_name {path : String} {x : JVal} {m : Msg} (hm : some m ∈ headerRefErrors path x) :
    m.name = path := by
  obtain ⟨_, _, _, _, _, _, _, rfl⟩ := mem_headerRefErrors.mp hm
  rfl

/-- Location as an invariant of results: merging keeps the messages of both operands, a child called with an extended
    path answers under the shorter one too, and what is kept of a failed branch keeps its name. -/
theorem locInv (cfg : Cfg) : TreeInv cfg {} Loc Under (fun _ => True) where
  empty _ _ h := nomatch h
  inc h := h
  mergeOne h1 h2 m hm := ((Res.mem_mergeOne_errors _ _ m).mp hm).elim (h1 m) (h2 m)
  addErrors _ h1 h2 := forall_mem_addMsgs h1 h2
  absorb h _ := h
  keep h := by
    unfold keepRelevant
    split
    · intro m hm
      obtain ⟨m0, hm0, rfl⟩ := List.mem_map.mp hm
      exact h m0 (List.mem_filter.mp hm0).1
    · exact fun _ h => nomatch h
  mono hpq h m hm := (h m hm).imp (pre_trans hpq) id
  msg h _ := h
  hdr _ _ _ hm := .inl (headerRefErrors_name hm ▸ pre_refl _)
  precheck _ h := h
  panic _ _ _ h := nomatch h
  arr _ _ _ := trivial
  obj _ _ _ := trivial

section
variable (cfg : Cfg) (O : Oracles) (r : String → V) (hr : ∀ name, LV (r name))
include hr

theorem validateM_loc (l : List (String × Schema)) : ∀ nf ∈ validateM cfg {} O r l, LV nf.2 :=
  forall_mem_validateM cfg {} O r fun q _ p x =>
    (locInv cfg).validate O r _ (fun name _ p x _ => hr name p x) q.2 (refsKnown_true _) p x trivial
end

theorem validateF_loc (cfg : Cfg) (O : Oracles) (defs : String → Option Schema) (n : Nat) (s : Schema) :
    LV (validateF cfg {} O defs n s) := fun p x =>
  (locInv cfg).validateF O defs _ (fun _ _ _ => refsKnown_true _) (fun _ _ _ _ _ h => nomatch h) n s (refsKnown_true s)
    p x trivial

end VM
