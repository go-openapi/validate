/-
  C09 — with the cut-off removed, the schema walker reports exactly what the specification `Exp` asks for (`walk_mem`). A stage
  wraps what a walk or a judge found by `reportIf`; what that reports is `mem_reportedOf_reportIf`, stage by stage below.
-/
import VM.Spec.Locations
import VM.Proofs.ResultLemmas
import VM.Proofs.Walker
namespace VM.Sw
open VM

theorem Exp_eq (J : Judges) (O : Oracles) (w : Which) (inn : String) (s : Schema) (path : String) (m : Msg) :
    Exp J O w inn s path m =
    (ownJudged J w s path m
    ∨ (match s.itemsS with | some t => Exp J O w inn t (path ++ ".items." ++ w.suffix) m | none => False)
    ∨ ExpL J O w inn s.itemsT path 0 m
    ∨ ownPattern O w inn s.base path m
    ∨ (match s.addItemsS with | some t => Exp J O w inn t (path ++ ".additionalItems") m | none => False)
    ∨ ExpM J O w inn s.props path m
    ∨ ExpM J O w inn s.patProps path m
    ∨ (match s.addPropsS with | some t => Exp J O w inn t (path ++ ".additionalProperties") m | none => False)
    ∨ ExpA J O w inn s.allOf path 0 m) := by
  cases s; exact Exp.eq_def ..

theorem ExpL_cons (J : Judges) (O : Oracles) (w : Which) (inn : String) (s : Schema) (ss : List Schema) (path : String) (i : Nat) (m : Msg) :
    ExpL J O w inn (s :: ss) path i m =
      (Exp J O w inn s (path ++ ".items[" ++ toString i ++ "]." ++ w.suffix) m ∨ ExpL J O w inn ss path (i + 1) m) := rfl
theorem ExpM_cons (J : Judges) (O : Oracles) (w : Which) (inn : String) (name : String) (s : Schema) (ps : List (String × Schema))
    (path : String) (m : Msg) :
    ExpM J O w inn ((name, s) :: ps) path m = (Exp J O w inn s (path ++ "." ++ name) m ∨ ExpM J O w inn ps path m) := rfl
theorem ExpA_cons (J : Judges) (O : Oracles) (w : Which) (inn : String) (s : Schema) (ss : List Schema) (path : String) (i : Nat) (m : Msg) :
    ExpA J O w inn (s :: ss) path i m =
      (Exp J O w inn s (path ++ ".allOf[" ++ toString i ++ "]") m ∨ ExpA J O w inn ss path (i + 1) m) := rfl

/- Merging, judging and reporting each extend the reported messages by `addMsgs`; what is reported afterwards is read off by
   `mem_addMsgs_some`. -/

theorem reportedOf_mergeOne (w : Which) (r x : Res) :
    reportedOf w (r.mergeOne x) = addMsgs (reportedOf w r) ((reportedOf w x).map some) := by
  cases w <;> rfl

theorem reportedOf_mergeJ (w : Which) (r j : Res) :
    reportedOf w (mergeJ w r j) = addMsgs (reportedOf w r) ((judgedOf w j).map some) := by
  cases w
  · rfl
  · show _ = addMsgs r.warnings ((j.errors ++ j.warnings).map some)
    rw [List.map_append, addMsgs_append]; rfl

theorem reportedOf_report (w : Which) (res red : Res) (tag : Msg) (b : Bool) :
    reportedOf w (report w res tag red b)
      = addMsgs (reportedOf w res) ((tag :: bif b then judgedOf w red else reportedOf w red).map some) := by
  rw [List.map_cons, ← List.singleton_append, addMsgs_append]
  cases w
  · cases b <;> rfl
  · cases b
    · rfl
    · exact reportedOf_mergeJ .exmp (res.addWarnings [some tag]) red

theorem mem_reportedOf_addError (w : Which) (r : Res) (e m : Msg) :
    m ∈ reportedOf w (r.addErrors [some e]) ↔ m ∈ reportedOf w r ∨ (w = .dflt ∧ m = e) := by
  cases w <;> simp [reportedOf, Res.addErrors, mem_addMsgs]

theorem not_mem_reportedOf_empty (w : Which) (m : Msg) : ¬ m ∈ reportedOf w ({} : Res) := by
  cases w <;> exact List.not_mem_nil

theorem mem_reportedOf_reportIf (w : Which) (res red : Res) (tag : Msg) (b : Bool) (m : Msg) :
    m ∈ reportedOf w (reportIf w res tag red b)
      ↔ m ∈ reportedOf w res
        ∨ (hasErrorsOrWarnings (some red) = true ∧ (m = tag ∨ m ∈ bif b then judgedOf w red else reportedOf w red)) := by
  unfold reportIf
  split
  · rw [reportedOf_report, mem_addMsgs_some, List.mem_cons, and_iff_right ‹_›]
  · exact (or_iff_left fun h => absurd h.1 ‹_›).symm

theorem hasEW_of_reported {w : Which} {r : Res} {m : Msg} (h : m ∈ reportedOf w r) : hasErrorsOrWarnings (some r) = true := by
  simp only [hasErrorsOrWarnings, Bool.or_eq_true, Bool.not_eq_true', List.isEmpty_eq_false_iff]
  cases w
  · exact .inl (List.ne_nil_of_mem h)
  · exact .inr (List.ne_nil_of_mem h)

theorem mem_reportIf_of_mem {w : Which} {red : Res} {m : Msg} (h : m ∈ reportedOf w red) (res : Res) (tag : Msg) :
    m ∈ reportedOf w (reportIf w res tag red false) :=
  (mem_reportedOf_reportIf w res red tag false m).mpr (.inr ⟨hasEW_of_reported h, .inr h⟩)

theorem eq_or_mem_of_mem_reportIf {w : Which} {red : Res} {tag m : Msg} (h : m ∈ reportedOf w (reportIf w {} tag red false)) :
    m = tag ∨ m ∈ reportedOf w red :=
  ((mem_reportedOf_reportIf w {} red tag false m).mp h).elim (fun h => absurd h (not_mem_reportedOf_empty w m)) And.right

theorem thenOpt_mem (w : Which) (st : WSt) (f : List String → Option Res × List String) (P : Msg → Prop)
    (h : ∃ r, (f st.2).1 = some r ∧ ∀ m, (m ∈ reportedOf w r ↔ P m)) (m : Msg) :
    m ∈ reportedOf w (thenOpt st f).1 ↔ m ∈ reportedOf w st.1 ∨ P m := by
  obtain ⟨r, hr, hm⟩ := h
  simp only [thenOpt, hr, mergeOpt]
  rw [reportedOf_mergeOne, mem_addMsgs_some, hm]

theorem mem_judged (w : Which) (o : Option JVal) (f : JVal → Res) (m : Msg) :
    m ∈ reportedOf w (match o with | some v => mergeJ w {} (f v) | none => {})
      ↔ (match o with | some v => m ∈ judgedOf w (f v) | none => False) := by
  cases o with
  | none => exact iff_of_false (not_mem_reportedOf_empty w m) id
  | some v => rw [reportedOf_mergeJ, mem_addMsgs_some]; exact or_iff_right (not_mem_reportedOf_empty w m)

section
variable (J : Judges) (O : Oracles) (w : Which) (inn : String)

theorem own_mem (s : Schema) (path : String) (m : Msg) : m ∈ reportedOf w (own J w s path) ↔ ownJudged J w s path m :=
  mem_judged w _ _ m

theorem patStep_mem (b : SBase) (path : String) (st : WSt) (m : Msg) :
    m ∈ reportedOf w (patStep O inn b path st).1 ↔ m ∈ reportedOf w st.1 ∨ ownPattern O w inn b path m := by
  unfold patStep ownPattern
  cases patOK O b.pattern with
  | true => simp
  | false => simp only [Bool.false_eq_true, ↓reduceIte, mem_reportedOf_addError, true_and]

def WalkMem (s : Schema) : Prop :=
  ∀ path vis, ∃ r, (walk DCfg.repaired J w O inn s path vis).1 = some r ∧ ∀ m, (m ∈ reportedOf w r ↔ Exp J O w inn s path m)

variable {J O w inn}

theorem walkO_mem {o : Option Schema} (ho : ∀ s, o = some s → WalkMem J O w inn s) (path : String) (st : WSt) (m : Msg) :
    m ∈ reportedOf w (walkO DCfg.repaired J w O inn o path st).1
      ↔ m ∈ reportedOf w st.1 ∨ (match (generalizing := false) o with | some s => Exp J O w inn s path m | none => False) := by
  cases o with
  | none => exact (or_iff_left id).symm
  | some s => exact thenOpt_mem w st _ _ (ho s rfl path st.2) m

theorem walkL_mem_of {l : List Schema} (hl : ∀ s ∈ l, WalkMem J O w inn s) (path : String) (i : Nat) (st : WSt) (m : Msg) :
    m ∈ reportedOf w (walkL DCfg.repaired J w O inn l path i st).1 ↔ m ∈ reportedOf w st.1 ∨ ExpL J O w inn l path i m := by
  induction l generalizing i st with
  | nil => exact (or_iff_left id).symm
  | cons s ss ih =>
    rw [walkL, ExpL_cons, ih (fun x hx => hl x (List.mem_cons_of_mem _ hx)),
      thenOpt_mem w st _ _ (hl s List.mem_cons_self _ st.2) m, or_assoc]

theorem walkM_mem_of {l : List (String × Schema)} (hl : ∀ p ∈ l, WalkMem J O w inn p.2) (path : String) (st : WSt) (m : Msg) :
    m ∈ reportedOf w (walkM DCfg.repaired J w O inn l path st).1 ↔ m ∈ reportedOf w st.1 ∨ ExpM J O w inn l path m := by
  induction l generalizing st with
  | nil => exact (or_iff_left id).symm
  | cons p ps ih =>
    rw [walkM, ExpM_cons, ih (fun x hx => hl x (List.mem_cons_of_mem _ hx)),
      thenOpt_mem w st _ _ (hl p List.mem_cons_self _ st.2) m, or_assoc]

theorem walkA_mem_of {l : List Schema} (hl : ∀ s ∈ l, WalkMem J O w inn s) (path : String) (i : Nat) (st : WSt) (m : Msg) :
    m ∈ reportedOf w (walkA DCfg.repaired J w O inn l path i st).1 ↔ m ∈ reportedOf w st.1 ∨ ExpA J O w inn l path i m := by
  induction l generalizing i st with
  | nil => exact (or_iff_left id).symm
  | cons s ss ih =>
    rw [walkA, ExpA_cons, ih (fun x hx => hl x (List.mem_cons_of_mem _ hx)),
      thenOpt_mem w st _ _ (hl s List.mem_cons_self _ st.2) m, or_assoc]

variable (J O w inn)

theorem walk_mem (s : Schema) : WalkMem J O w inn s := by
  induction s using walk_induct with
  | step s i1 i2 i3 i4 i5 i6 i7 =>
    intro path vis
    rw [walk_eq]
    refine ⟨_, rfl, fun m => ?_⟩
    rw [Exp_eq, walkA_mem_of i7, walkO_mem i6, walkM_mem_of i5, walkM_mem_of i4, walkO_mem i3, patStep_mem, walkL_mem_of i2,
      walkO_mem i1, own_mem]
    simp only [or_assoc]

theorem walkL_mem (l : List Schema) (path : String) (i : Nat) (st : WSt) (m : Msg) :
    m ∈ reportedOf w (walkL DCfg.repaired J w O inn l path i st).1 ↔ m ∈ reportedOf w st.1 ∨ ExpL J O w inn l path i m :=
  walkL_mem_of (fun s _ => walk_mem J O w inn s) path i st m
theorem walkM_mem (l : List (String × Schema)) (path : String) (st : WSt) (m : Msg) :
    m ∈ reportedOf w (walkM DCfg.repaired J w O inn l path st).1 ↔ m ∈ reportedOf w st.1 ∨ ExpM J O w inn l path m :=
  walkM_mem_of (fun p _ => walk_mem J O w inn p.2) path st m
theorem walkA_mem (l : List Schema) (path : String) (i : Nat) (st : WSt) (m : Msg) :
    m ∈ reportedOf w (walkA DCfg.repaired J w O inn l path i st).1 ↔ m ∈ reportedOf w st.1 ∨ ExpA J O w inn l path i m :=
  walkA_mem_of (fun s _ => walk_mem J O w inn s) path i st m

theorem defsStage_mem (defs : List (String × Schema)) (res : Res) (vis : List String) (m : Msg) :
    m ∈ reportedOf w (defsStage DCfg.repaired J w O defs res vis)
      ↔ m ∈ reportedOf w res ∨ ∃ d ∈ defs, Exp J O w "body" d.2 ("definitions." ++ d.1) m := by
  induction defs generalizing res vis with
  | nil => simp only [defsStage, List.not_mem_nil, false_and, exists_const, or_false]
  | cons d rest ih =>
    obtain ⟨r, hr, hm⟩ := walk_mem J O w "body" d.2 ("definitions." ++ d.1) vis
    rw [defsStage, ih]
    simp only [hr, mergeOpt, reportedOf_mergeOne, mem_addMsgs_some, hm, List.mem_cons, exists_eq_or_imp, or_assoc]

variable (c : DCfg)

theorem paramSchema_eq (res : Res) (p : Param) {s : Schema} (hs : p.schema = some s) {red : Res}
    (hr : (walk c J w O p.loc s p.name []).1 = some red) :
    paramSchema c J w O res p = reportIf w res (mkMsg (kindName w "Param") [p.name, p.loc]) red false := by
  simp only [paramSchema, hs, hr]

theorem respSchema_eq (o : Op) (r : Response) (res : Res) {s : Schema} (hs : r.schema = some s) {red : Res}
    (hr : (walk c J w O "response" s r.code []).1 = some red) :
    respSchema c J w O o r res = reportIf w res (mkMsg (kindName w "Response") [o.id, responseName r]) red false := by
  simp only [respSchema, hs, hr]

end

/-- what must be reported for an items chain: the judgement of each level's own value under
    `name`, `name[0].default`, … and (defaults only) each level's pattern that does not compile -/
def ExpItems (J : Judges) (O : Oracles) (w : Which) (inn rootFmt : String) : List ItemLevel → String → Msg → Prop
  | [], _, _ => False
  | l :: rest, path, m =>
    (match itemValue w l with
     | some v => m ∈ judgedOf w (J.items path inn rootFmt (l :: rest) v)
     | none => False)
    ∨ ExpItems J O w inn rootFmt rest (path ++ "[0]." ++ w.suffix) m
    ∨ (w = .dflt ∧ patOK O l.base.pattern = false ∧ m = mkMsg "invalidPatternIn" [path, inn, l.base.pattern])

theorem itemsHere_mem (J : Judges) (w : Which) (inn rootFmt : String) (l : ItemLevel) (rest : List ItemLevel) (path : String) (m : Msg) :
    m ∈ reportedOf w (itemsHere J w inn rootFmt l rest path)
      ↔ (match itemValue w l with
          | some v => m ∈ judgedOf w (J.items path inn rootFmt (l :: rest) v)
          | none => False) :=
  mem_judged w _ _ m

theorem itemsPattern_mem (O : Oracles) (w : Which) (inn : String) (l : ItemLevel) (path : String) (res : Res) (m : Msg) :
    m ∈ reportedOf w (itemsPattern O inn l path res) ↔ m ∈ reportedOf w res ∨ ownPattern O w inn l.base path m :=
  -- `itemsPattern … res` is `(patStep … (res, [])).1` by definition
  patStep_mem O w inn l.base path (res, []) m

theorem walkItems_mem (J : Judges) (O : Oracles) (w : Which) (inn rootFmt : String) (chain : List ItemLevel) (path : String) (m : Msg) :
    m ∈ reportedOf w (walkItems J w O inn rootFmt chain path) ↔ ExpItems J O w inn rootFmt chain path m := by
  match chain with
  | [] => exact iff_of_false (not_mem_reportedOf_empty w m) id
  | [l] => simp only [walkItems, ExpItems, itemsPattern_mem, itemsHere_mem, ownPattern, false_or]
  | l :: l' :: rest =>
    rw [walkItems, itemsPattern_mem, reportedOf_mergeOne, mem_addMsgs_some, itemsHere_mem, walkItems_mem J O w inn rootFmt (l' :: rest)]
    simp only [ExpItems, ownPattern, or_assoc]

/-- **Simple parameters**: the value is judged by the parameter's own validator; the wrapper message and the
    validator's findings are reported exactly when it finds something -/
theorem paramSimple_mem (J : Judges) (w : Which) (res : Res) (p : Param) (v : JVal)
    (hv : w.value p.base = some v) (hs : p.schema = none) (m : Msg) :
    m ∈ reportedOf w (paramSimple J w res p)
      ↔ m ∈ reportedOf w res
        ∨ (hasErrorsOrWarnings (some (J.param p v)) = true
            ∧ (m = mkMsg (kindName w "Param") [p.name, p.loc] ∨ m ∈ judgedOf w (J.param p v))) := by
  simp only [paramSimple, hv, hs, mem_reportedOf_reportIf, cond_true]

/-- **Headers**: likewise, by the header's own validator -/
theorem headerSimple_mem (J : Judges) (w : Which) (opId : String) (r : Response) (res : Res) (h : Header) (v : JVal)
    (hv : w.value h.base = some v) (m : Msg) :
    m ∈ reportedOf w (headerSimple J w opId r res h)
      ↔ m ∈ reportedOf w res
        ∨ (hasErrorsOrWarnings (some (J.header h v)) = true
            ∧ (m = mkMsg (kindName w "Header") [opId, h.name, responseName r] ∨ m ∈ judgedOf w (J.header h v))) := by
  simp only [headerSimple, hv, mem_reportedOf_reportIf, cond_true]

end VM.Sw
