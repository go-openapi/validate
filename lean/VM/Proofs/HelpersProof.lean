/-
  C14 — what `reflect.DeepEqual` identifies the specification's value equality identifies too (`deepEq_valEq_all`, along the
  equations of `deepEq`), so `UniqueItems` is sound, and exact on a list where the two equalities agree pairwise
  (`hasDeepDup_eq_specHasDup`).
-/
import VM.Impl.Helpers
import VM.Proofs.Lists
namespace VM.Helpers
open VM GoVal

theorem deepEq_valEq_all :
    (∀ a b, deepEq a b = true → valEq a b = true)
    ∧ (∀ a b, deepEqSub a b = true → valEqSub a b = true)
    ∧ (∀ a b, deepEqList a b = true → valEqList a b = true) := by
  -- the cases are the equations of `deepEq`, `deepEqList` and `deepEqSub`, in this order
  apply deepEq.mutual_induct
  · exact fun _ => rfl
  · exact fun a b h => h
  · intro b1 x b2 y h
    cases beq_iff_eq.mp (Bool.and_eq_true_iff.mp h).2; exact beq_self_eq_true (α := Rat) _
  · intro b1 x b2 y h
    cases beq_iff_eq.mp (Bool.and_eq_true_iff.mp h).2; exact beq_self_eq_true (α := Rat) _
  · intro b1 x b2 y h
    cases beq_iff_eq.mp (Bool.and_eq_true_iff.mp h).2; exact beq_self_eq_true (α := Rat) _
  · exact fun a b h => h
  · exact fun t1 a t2 b h => (Bool.and_eq_true_iff.mp h).2
  · intro e1 n1 a e2 n2 b ih h
    simp only [deepEq, Bool.and_eq_true] at h
    simp only [valEq, Bool.and_eq_true]
    exact ⟨h.1.2, ih h.2⟩
  · intro n1 a n2 b ih h
    simp only [deepEq, Bool.and_eq_true] at h
    simp only [valEq, Bool.and_eq_true]
    exact ⟨h.1, ih h.2⟩
  · exact fun t1 t2 h => h
  · exact fun t1 a t2 b ih h => ih (Bool.and_eq_true_iff.mp h).2
  · intro a b _ _ _ _ _ _ _ _ _ _ _ h      -- the constructors differ
    rw [deepEq.eq_12 a b] at h
    · cases h
    all_goals assumption
  · exact fun _ => rfl
  · intro x xs y ys ih1 ih2 h
    simp only [deepEqList, Bool.and_eq_true] at h
    simp only [valEqList, Bool.and_eq_true]
    exact ⟨ih1 h.1, ih2 h.2⟩
  · intro a b _ _ h                            -- the lengths differ
    rw [deepEqList.eq_3 a b] at h
    · cases h
    all_goals assumption
  · exact fun _ _ => rfl
  · intro k v rest b ih1 ih2 h
    simp only [deepEqSub, Bool.and_eq_true] at h
    simp only [valEqSub, Bool.and_eq_true]
    exact ⟨any_mono (fun kv _ hp => by rw [Bool.and_eq_true] at hp ⊢; exact ⟨hp.1, ih1 kv hp.2⟩) h.1, ih2 h.2⟩

theorem deepEq_valEq (a b : GoVal) (h : deepEq a b = true) : valEq a b = true := deepEq_valEq_all.1 a b h
theorem deepEqList_valEqList (a b : List GoVal) (h : deepEqList a b = true) : valEqList a b = true := deepEq_valEq_all.2.2 a b h
theorem deepEqSub_valEqSub (a b : List (String × GoVal)) (h : deepEqSub a b = true) : valEqSub a b = true :=
  deepEq_valEq_all.2.1 a b h

theorem hasDeepDup_sound : ∀ xs : List GoVal, hasDeepDup xs = true → specHasDup xs = true
  | [], h => nomatch h
  | x :: xs, h => by
    simp only [hasDeepDup, Bool.or_eq_true] at h
    simp only [specHasDup, Bool.or_eq_true]
    rcases h with h | h
    · exact .inl (any_mono (fun y _ hy => deepEq_valEq x y hy) h)
    · exact .inr (hasDeepDup_sound xs h)

theorem hasDeepDup_eq_specHasDup : ∀ xs : List GoVal, (∀ x ∈ xs, ∀ y ∈ xs, deepEq x y = valEq x y) →
    hasDeepDup xs = specHasDup xs
  | [], _ => rfl
  | x :: xs, h => by
    rw [hasDeepDup, specHasDup, hasDeepDup_eq_specHasDup xs fun a ha b hb => h a (.tail _ ha) b (.tail _ hb),
      any_congr_mem fun y hy => h x (.head _) y (.tail _ hy)]

end VM.Helpers
