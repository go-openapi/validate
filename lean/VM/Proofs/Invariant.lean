/-
  Invariants of results. Three theorems about the validator tree have the same shape — no result has the panic flag
  set (C06), every error is located under the root path (C17), no result carries an IMPORTANT! message (the leak
  switch of C01) — and the same proof: the property holds of the literal results, survives the operations of the
  result algebra, and so survives every loop of the model. `TreeInv` says what such a property has to satisfy;
  `TreeInv.nodeValidate` carries it through one node, `TreeInv.validate` and `TreeInv.validateF` through the tree.
-/
import VM.Proofs.ResOk
import VM.Proofs.TreeInd
import VM.Proofs.Assoc
namespace VM
open Impl

def pre (a b : String) : Prop := a.toList <+: b.toList

theorem pre_refl (a : String) : pre a a := List.prefix_refl _
theorem pre_trans {a b c : String} (h1 : pre a b) (h2 : pre b c) : pre a c := List.IsPrefix.trans h1 h2
theorem pre_append (a x : String) : pre a (a ++ x) := by simp [pre]
theorem pre_dot (p k : String) : pre p (dot p k) := by
  unfold dot; rw [String.append_assoc]; exact pre_append _ _
theorem pre_idx (p : String) (i : Nat) : pre p (idx p i) := by
  unfold idx; rw [String.append_assoc]; exact pre_append _ _
theorem pre_empty (b : String) : pre "" b := by simp [pre]

theorem sErr_eq (e : Msg) : sErr e = ({} : Res).addErrors [some e] := rfl

def VInv (I : String → Res → Prop) (Q : JVal → Prop) (f : V) : Prop := ∀ p x, Q x → I p (f p x)

def OptInv (I : String → Res → Prop) (p : String) : Option Res → Prop
  | some r => I p r
  | none => True

/-- What the invariant theorem asks of `I path r` ("`r` may be the result of a validator rooted at `path`"), of
    `M path m` ("a validator rooted at `path` may report `m`") and of the instances `Q` it is claimed for. The first
    group is the result algebra; `msg` covers every message of the model but two kinds, which have laws of their own:
    the IMPORTANT! messages for `$ref` under a `headers` member (`hdr`) and the messages of the Swagger pre-checks, which
    name the missing keyword instead of a location (`precheck`). `panic` is the index out of range of the
    additional-items loop, which its repaired bound excludes. -/
structure TreeInv (cfg : Cfg) (opts : Opts) (I : String → Res → Prop) (M : String → Msg → Prop) (Q : JVal → Prop) :
    Prop where
  empty : ∀ p, I p {}
  inc : ∀ {p r}, I p r → I p r.inc
  mergeOne : ∀ {p r o}, I p r → I p o → I p (r.mergeOne o)
  addErrors : ∀ {p r} (es : List (Option Msg)), I p r → (∀ m, some m ∈ es → M p m) → I p (r.addErrors es)
  absorb : ∀ {p r o}, I p r → I p o → I p (absorb r o)
  keep : ∀ {p r}, I p r → I p (keepRelevant cfg r)
  mono : ∀ {p q r}, pre p q → I q r → I p r
  msg : ∀ {p m}, pre p m.name ∨ m.name = "" → m.important = false → M p m
  hdr : ∀ {p kvs x}, Q (.obj kvs) → ("headers", x) ∈ kvs → ∀ m, some m ∈ headerRefErrors p x → M p m
  precheck : ∀ {p r} kvs, I p r → I p (precheck opts p kvs r)
  panic : cfg.addlItemsBound = true → ∀ p, I p Impl.panic
  arr : ∀ {xs}, Q (.arr xs) → ∀ x ∈ xs, Q x
  obj : ∀ {kvs}, Q (.obj kvs) → ∀ kv ∈ kvs, Q kv.2

theorem TreeInv.restrict {cfg : Cfg} {opts : Opts} {I : String → Res → Prop} {M : String → Msg → Prop} {Q Q' : JVal → Prop}
    (T : TreeInv cfg opts I M Q) (hsub : ∀ x, Q' x → Q x) (harr : ∀ {xs}, Q' (.arr xs) → ∀ x ∈ xs, Q' x)
    (hobj : ∀ {kvs}, Q' (.obj kvs) → ∀ kv ∈ kvs, Q' kv.2) : TreeInv cfg opts I M Q' :=
  { T with hdr := fun hq => T.hdr (hsub _ hq), arr := harr, obj := hobj }

-- inside this namespace the lemma about a function of the model bears the function's name: the model's own is `Impl.…`
namespace TreeInv
variable {cfg : Cfg} {opts : Opts} {I : String → Res → Prop} {M : String → Msg → Prop} {Q : JVal → Prop}
  (T : TreeInv cfg opts I M Q)
include T

theorem own {p : String} {m : Msg} (hn : m.name = p) (hi : m.important = false) : M p m :=
  T.msg (.inl (hn ▸ pre_refl _)) hi

theorem add {p : String} {r : Res} (h : I p r) {e : Msg} (he : M p e) : I p (r.addErrors [some e]) :=
  T.addErrors _ h fun m hm => by
    simp only [List.mem_singleton, Option.some.injEq] at hm; exact hm ▸ he

theorem sErr {p : String} {e : Msg} (he : M p e) : I p (sErr e) := sErr_eq e ▸ T.add (T.empty p) he

theorem emptyResult (p : String) : I p emptyResult := T.inc (T.empty p)

theorem merge {p : String} {r : Res} (os : List (Option Res)) (h1 : I p r) (h2 : ∀ o ∈ os, OptInv I p o) :
    I p (r.merge os) := by
  induction os generalizing r with
  | nil => exact h1
  | cons o os ih =>
    have h2' := fun y hy => h2 y (List.mem_cons_of_mem _ hy)
    cases o with
    | none => exact ih h1 h2'
    | some x => exact ih (T.mergeOne h1 (h2 (some x) List.mem_cons_self)) h2'

theorem merge1 {p : String} {r : Res} {o : Option Res} (h1 : I p r) (h2 : OptInv I p o) : I p (r.merge [o]) :=
  T.merge _ h1 fun x hx => by simp only [List.mem_singleton] at hx; exact hx ▸ h2

theorem step {p : String} (a : Bool) {res : Option Res} {acc : Res} (h1 : I p acc) (h2 : OptInv I p res) :
    I p (step a res acc) := by
  unfold Impl.step
  split
  · exact T.inc (T.merge1 h1 h2)
  · exact h1

/-! ### leaves -/

theorem typeValidate (O : Oracles) (b : SBase) (path : String) (v : JVal) : I path (typeValidate cfg O b path v) := by
  unfold Impl.typeValidate
  have e (t) : I path (Impl.sErr (eInvalidType path t)) := T.sErr (T.own rfl rfl)
  have z := T.emptyResult path
  split
  · exact of_ite (I path) (e _) z
  · exact of_ite (I path) (e _) (of_ite (I path) z (of_ite (I path) (e _) z))

theorem stringValidate (O : Oracles) (b : SBase) (path s : String) : OptInv I path (stringValidate O b path s) := by
  unfold Impl.stringValidate
  have e {m} (hn : m.name = path) (hi : m.important = false) : OptInv I path (some (Impl.sErr m)) := T.sErr (T.own hn hi)
  exact of_ite (OptInv I path) (e rfl rfl) (of_ite (OptInv I path) (e rfl rfl) (of_ite (OptInv I path) (e rfl rfl) trivial))

theorem formatValidate (O : Oracles) (b : SBase) (path s : String) : I path (formatValidate O b path s) :=
  of_ite (I path) (T.empty _) (T.sErr (T.own rfl rfl))

theorem numberValidate (O : Oracles) (b : SBase) (path : String) (n : Rat) :
    I path (numberValidate cfg O b path n) := by
  unfold Impl.numberValidate
  have e {m} (hn : m.name = path) (hi : m.important = false) : I path (Impl.sErr m) := T.sErr (T.own hn hi)
  apply T.inc
  apply T.merge _ (T.empty _)
  intro o ho
  simp only [List.mem_cons, List.mem_nil_iff, or_false] at ho
  rcases ho with rfl | rfl | rfl
  · cases b.multipleOf with
    | none => trivial
    | some m => exact of_ite (I path) (e rfl rfl) (of_ite (I path) (T.empty _) (e rfl rfl))
  · cases b.minimum with
    | none => trivial
    | some m => exact of_ite (I path) (e rfl rfl) (T.empty _)
  · cases b.maximum with
    | none => trivial
    | some m => exact of_ite (I path) (e rfl rfl) (T.empty _)

theorem commonValidate (b : SBase) (path : String) (v : JVal) : OptInv I path (commonValidate cfg b path v) :=
  of_ite (OptInv I path) trivial (of_ite (OptInv I path) trivial (T.sErr (T.own rfl rfl)))

/-! ### slices -/

theorem itemsLoop {f : V} (hf : VInv I Q f) (path : String) (xs : List JVal) (hq : ∀ x ∈ xs, Q x) (i : Nat) (acc : Res)
    (h : I path acc) : I path (itemsLoop f path xs i acc) := by
  fun_induction Impl.itemsLoop f path xs i acc with
  | case1 => exact h
  | case2 x xs i acc ih =>
    exact ih (List.forall_mem_cons.mp hq).2 (T.mergeOne h (hf _ x (hq x List.mem_cons_self)))

theorem tupleLoop (path : String) {fs : List V} (hfs : ∀ f ∈ fs, VInv I Q f) (xs : List JVal) (hq : ∀ x ∈ xs, Q x)
    (i : Nat) (acc : Res) (h : I path acc) : I path (tupleLoop path fs xs i acc) := by
  fun_induction Impl.tupleLoop path fs xs i acc with
  | case1 f fs x xs i acc ih =>
    exact ih (List.forall_mem_cons.mp hfs).2 (List.forall_mem_cons.mp hq).2
      (T.mergeOne h (T.mono (pre_idx path i) (hfs f List.mem_cons_self _ x (hq x List.mem_cons_self))))
  | case2 => exact h

theorem addlLoop {f : V} (hf : VInv I Q f) (path : String) (xs : List JVal) (hq : ∀ x ∈ xs, Q x) (fuel i : Nat)
    (acc : Res) (hb : i + fuel ≤ xs.length ∨ I path Impl.panic) (h : I path acc) :
    I path (addlLoop f path xs fuel i acc) := by
  fun_induction Impl.addlLoop f path xs fuel i acc with
  | case1 => exact h
  | case2 fuel i acc hn =>
    rcases hb with hb | hb
    · rw [List.getElem?_eq_none_iff] at hn; omega
    · exact T.absorb h hb
  | case3 fuel i acc x hx ih =>
    exact ih (hb.imp (by omega) id) (T.mergeOne h (T.mono (pre_idx path i) (hf _ x (hq x (List.mem_of_getElem? hx)))))

theorem addlPart (b : SBase) {k : IKids} (hk : k.All (VInv I Q)) (path : String) (xs : List JVal) (hq : ∀ x ∈ xs, Q x)
    (r2 : Res) (h : I path r2) : I path (addlPart cfg b k path xs r2) := by
  have hr : I path (if (k.itemsT.length > 0 && b.addItems == .bool false) = true
      then r2.addErrors [some eNoAddlItems] else r2) := of_ite (I path) (T.add h (T.msg (.inr rfl) rfl)) h
  fun_cases Impl.addlPart cfg b k path xs r2 with
  | case1 _ _ _ _ f hf _ hc => exact T.addlLoop (hk.addItemsS f hf) path xs hq _ _ _ (.inr (T.panic hc path)) hr
  | case2 size itemsSize hlt _ f hf =>
    have hlt : itemsSize < size := by simp only [Bool.and_eq_true, decide_eq_true_eq] at hlt; exact hlt.2
    exact T.addlLoop (hk.addItemsS f hf) path xs hq _ _ _ (.inl (by omega)) hr
  | case3 => exact hr
  | case4 => exact hr
  | case5 => exact h

theorem sizePart (b : SBase) (path : String) (xs : List JVal) (r3 : Res) (h : I path r3) :
    I path (sizePart b path xs r3) := by
  unfold Impl.sizePart
  have cond {r} (hr : I path r) (c : Prop) [Decidable c] {e : Msg} (hn : e.name = path) (hi : e.important = false) :
      I path (if c then r.addErrors [some e] else r) := of_ite (I path) (T.add hr (T.own hn hi)) hr
  exact T.inc (cond (cond (cond h _ rfl rfl) _ rfl rfl) _ rfl rfl)

theorem sliceValidate (b : SBase) {k : IKids} (hk : k.All (VInv I Q)) (path : String) (xs : List JVal)
    (hq : ∀ x ∈ xs, Q x) : I path (sliceValidate cfg b k path xs) := by
  unfold Impl.sliceValidate
  apply T.sizePart
  apply T.addlPart b hk _ _ hq
  apply T.tupleLoop _ hk.itemsT _ hq
  cases hi : k.itemsS with
  | none => exact T.empty _
  | some f => exact T.itemsLoop (hk.itemsS f hi) _ _ hq _ _ (T.empty _)

/-! ### composition (schema_props.go) -/

theorem anyOfLoop (path : String) (v : JVal) (hq : Q v) {fs : List V} (hfs : ∀ f ∈ fs, VInv I Q f) (best : Option Res)
    (main keep : Res) (hb : OptInv I path best) (hm : I path main) (hk : I path keep) :
    I path (anyOfLoop cfg path v fs best main keep).1 ∧ I path (anyOfLoop cfg path v fs best main keep).2 := by
  fun_induction Impl.anyOfLoop cfg path v fs best main keep with
  | case1 => exact ⟨T.merge1 (T.add hm (T.own rfl rfl)) hb, hk⟩
  | case2 f =>
    have hf := hfs f List.mem_cons_self path v hq
    exact ⟨T.mergeOne (T.absorb hm hf) hf, T.empty _⟩
  | case3 f fs best main keep result keep' main' _ _ ih =>
    have hf := hfs f List.mem_cons_self path v hq
    exact ih (List.forall_mem_cons.mp hfs).2 hf (T.absorb hm hf) (T.mergeOne hk (T.keep hf))
  | case4 f fs best main keep result keep' main' _ _ ih =>
    have hf := hfs f List.mem_cons_self path v hq
    exact ih (List.forall_mem_cons.mp hfs).2 hb (T.absorb hm hf) (T.mergeOne hk (T.keep hf))

theorem oneOfLoop (path : String) (v : JVal) (hq : Q v) {fs : List V} (hfs : ∀ f ∈ fs, VInv I Q f)
    (first best : Option Res) (n : Nat) (main keep : Res) (hfi : OptInv I path first) (hb : OptInv I path best)
    (hm : I path main) (hk : I path keep) :
    I path (oneOfLoop cfg path v fs first best n main keep).1
      ∧ I path (oneOfLoop cfg path v fs first best n main keep).2 := by
  fun_induction Impl.oneOfLoop cfg path v fs first best n main keep with
  | case1 => exact ⟨T.merge1 (T.add hm (T.own rfl rfl)) hb, hk⟩
  | case2 => exact ⟨T.merge1 hm hfi, hk⟩
  | case3 => exact ⟨T.merge1 (T.add hm (T.own rfl rfl)) hb, hk⟩
  | case4 f fs first best n main keep result main' _ ih =>
    have hf := hfs f List.mem_cons_self path v hq
    exact ih (List.forall_mem_cons.mp hfs).2 (of_ite (OptInv I path) (a := some _) hf hfi) hb
      (T.absorb hm hf) (T.empty _)
  | case5 f fs first best n main keep result keep' main' _ _ ih =>
    have hf := hfs f List.mem_cons_self path v hq
    exact ih (List.forall_mem_cons.mp hfs).2 hfi hf (T.absorb hm hf) (T.mergeOne hk (T.keep hf))
  | case6 f fs first best n main keep result keep' main' _ _ ih =>
    have hf := hfs f List.mem_cons_self path v hq
    exact ih (List.forall_mem_cons.mp hfs).2 hfi hb (T.absorb hm hf) (T.mergeOne hk (T.keep hf))

theorem allOfLoop (path : String) (v : JVal) (hq : Q v) (total : Nat) {fs : List V} (hfs : ∀ f ∈ fs, VInv I Q f)
    (n : Nat) (main keep : Res) (hm : I path main) (hk : I path keep) :
    I path (allOfLoop cfg path v total fs n main keep).1 ∧ I path (allOfLoop cfg path v total fs n main keep).2 := by
  fun_induction Impl.allOfLoop cfg path v total fs n main keep with
  | case1 => exact ⟨T.add hm (T.own rfl rfl), hk⟩
  | case2 => exact ⟨hm, hk⟩
  | case3 => exact ⟨T.add hm (T.own rfl rfl), hk⟩
  | case4 f fs n main keep result keep' ih =>
    have hf := hfs f List.mem_cons_self path v hq
    exact ih (List.forall_mem_cons.mp hfs).2 (T.mergeOne hm hf) (T.mergeOne hk (T.keep hf))

theorem depsLoop (b : SBase) {k : IKids} (hk : k.All (VInv I Q)) (path : String) (v : JVal) (hq : Q v)
    (kvs rest : List (String × JVal)) (main : Res) (hm : I path main) :
    I path (depsLoop b k path v kvs rest main) := by
  fun_induction Impl.depsLoop b k path v kvs rest main with
  | case1 => exact hm
  | case2 key _ rest main f hf ih =>
    exact ih (T.mergeOne hm (T.mono (pre_dot path key) (hk.depSchemas _ (alookup_mem hf) _ v hq)))
  | case3 key _ rest main _ ds _ ih =>
    refine ih (T.addErrors _ hm fun m hm' => ?_)
    obtain ⟨d, _, hd⟩ := List.mem_map.mp hm'
    split at hd
    · cases hd
    · cases hd; exact T.own rfl rfl
  | case4 key _ rest main _ _ ih => exact ih hm

section parts
variable {k : IKids} (hk : k.All (VInv I Q)) (path : String) (v : JVal) (hq : Q v) (main : Res) (hm : I path main)
include hk hq hm

theorem anyOfPart : I path (anyOfPart cfg k path v main).1 ∧ OptInv I path (anyOfPart cfg k path v main).2 := by
  unfold Impl.anyOfPart
  split
  · exact ⟨hm, trivial⟩
  · exact T.anyOfLoop path v hq hk.anyOf none main {} trivial hm (T.empty _)

theorem oneOfPart : I path (oneOfPart cfg k path v main).1 ∧ OptInv I path (oneOfPart cfg k path v main).2 := by
  unfold Impl.oneOfPart
  split
  · exact ⟨hm, trivial⟩
  · exact T.oneOfLoop path v hq hk.oneOf none none 0 main {} trivial trivial hm (T.empty _)

theorem allOfPart : I path (allOfPart cfg k path v main).1 ∧ OptInv I path (allOfPart cfg k path v main).2 := by
  unfold Impl.allOfPart
  split
  · exact ⟨hm, trivial⟩
  · exact T.allOfLoop path v hq _ hk.allOf 0 main {} hm (T.empty _)

theorem notPart : I path (notPart k path v main) := by
  fun_cases Impl.notPart k path v main with
  | case1 f hf => exact T.add (T.absorb hm (hk.not f hf path v hq)) (T.own rfl rfl)
  | case2 f hf => exact T.absorb hm (hk.not f hf path v hq)
  | case3 => exact hm

theorem depsPart (b : SBase) : I path (depsPart b k path v main) := by
  fun_cases Impl.depsPart b k path v main with
  | case1 => exact hm
  | case2 kvs => exact T.depsLoop b hk path _ hq _ _ main hm
  | case3 => exact hm

end parts

theorem schemaPropsValidate (b : SBase) {k : IKids} (hk : k.All (VInv I Q)) (path : String) (v : JVal) (hq : Q v) :
    I path (schemaPropsValidate cfg b k path v) := by
  have h1 := T.anyOfPart hk path v hq {} (T.empty _)
  have h2 := T.oneOfPart hk path v hq _ h1.1
  have h3 := T.allOfPart hk path v hq _ h2.1
  refine T.merge _ (T.inc (T.depsPart hk path v hq _ (T.notPart hk path v hq _ h3.1) b)) fun o ho => ?_
  simp only [List.mem_cons, List.mem_nil_iff, or_false] at ho
  rcases ho with rfl | rfl | rfl
  · exact h3.2
  · exact h2.2
  · exact h1.2

/-! ### object validator (object_validator.go) -/

theorem patApply (O : Oracles) (path key : String) (x : JVal) (hx : Q x) {pats : List (String × V)}
    (hp : ∀ nf ∈ pats, VInv I Q nf.2) (res : Res) (matched : Bool) (acc : List String) (h : I path res)
    {r : Res} {m : Bool} {a : List String} (e : patApply O path key x pats res matched acc = (r, m, a)) : I path r := by
  fun_induction Impl.patApply O path key x pats res matched acc with
  | case1 => cases e; exact h
  | case2 p f rest res matched acc _ ih =>
    exact ih (List.forall_mem_cons.mp hp).2
      (T.mergeOne h (T.mono (pre_dot path key) (hp (p, f) List.mem_cons_self _ x hx))) e
  | case3 p f rest res matched acc _ ih => exact ih (List.forall_mem_cons.mp hp).2 h e

theorem noAdditionalLoop (O : Oracles) (k : IKids) (path : String) {all : List (String × JVal)} (hq : Q (.obj all))
    (kvs : List (String × JVal)) (hsub : ∀ kv ∈ kvs, kv ∈ all) (res : Res) (h : I path res) :
    I path (noAdditionalLoop cfg O k path kvs res) := by
  fun_induction Impl.noAdditionalLoop cfg O k path kvs res with
  | case1 => exact h
  | case2 key x rest res _ ih => exact ih (List.forall_mem_cons.mp hsub).2 h
  | case3 key x rest res _ _ ih => exact ih (List.forall_mem_cons.mp hsub).2 h
  | case4 key x rest res _ _ _ ih => exact ih (List.forall_mem_cons.mp hsub).2 h
  | case5 key x rest res _ _ _ res1 res2 ih =>
    refine ih (List.forall_mem_cons.mp hsub).2 ?_
    have h1 : I path res1 := T.add h (T.own (m := eUnallowedProp path key) rfl rfl)
    unfold res2; split
    · next hk => exact T.addErrors _ h1 (T.hdr hq (eq_of_beq hk ▸ hsub _ List.mem_cons_self))
    · exact h1

theorem additionalLoop (O : Oracles) {k : IKids} (hk : k.All (VInv I Q)) (path : String) (kvs : List (String × JVal))
    (hq : ∀ kv ∈ kvs, Q kv.2) (res : Res) (h : I path res) : I path (additionalLoop O k path kvs res) := by
  fun_induction Impl.additionalLoop O k path kvs res with
  | case1 => exact h
  | case2 key x rest res _ ih => exact ih (List.forall_mem_cons.mp hq).2 h
  | case3 key x rest res _ res' _ e ih =>
    exact ih (List.forall_mem_cons.mp hq).2
      (T.patApply O path key x (hq (key, x) List.mem_cons_self) hk.patProps res false [] h e)
  | case4 key x rest res _ res' _ _ e _ f hf ih =>
    have hx := hq (key, x) List.mem_cons_self
    exact ih (List.forall_mem_cons.mp hq).2 (T.mergeOne
      (T.patApply O path key x hx hk.patProps res false [] h e) (T.mono (pre_dot path key) (hk.addPropsS f hf _ x hx)))
  | case5 key x rest res _ res' _ _ e _ _ ih =>
    exact ih (List.forall_mem_cons.mp hq).2
      (T.patApply O path key x (hq (key, x) List.mem_cons_self) hk.patProps res false [] h e)

theorem propsLoop (path : String) (kvs : List (String × JVal)) (hq : ∀ kv ∈ kvs, Q kv.2) {props : List (String × V)}
    (hp : ∀ nf ∈ props, VInv I Q nf.2) (res : Res) (h : I path res) : I path (propsLoop path kvs props res) := by
  fun_induction Impl.propsLoop path kvs props res with
  | case1 => exact h
  | case2 name f rest res x hx ih =>
    refine ih (List.forall_mem_cons.mp hp).2 (T.mergeOne h ?_)
    have hf := fun p => hp (name, f) List.mem_cons_self p x (hq _ (alookup_mem hx))
    split
    · next he => exact T.mono (eq_of_beq he ▸ pre_empty _) (hf _)
    · exact T.mono (pre_dot path name) (hf _)
  | case3 name f rest res _ ih => exact ih (List.forall_mem_cons.mp hp).2 h

theorem foldPats {k : IKids} (hk : k.All (VInv I Q)) (path key : String) (x : JVal) (hx : Q x) (pats : List String)
    (res : Res) (h : I path res) :
    I path (pats.foldl (fun acc p => match alookup p k.patProps with
        | some f => acc.mergeOne (f (dot path key) x)
        | none => acc) res) := by
  induction pats generalizing res with
  | nil => exact h
  | cons p rest ih =>
    simp only [List.foldl_cons]
    apply ih
    split
    · rename_i f hf
      exact T.mergeOne h (T.mono (pre_dot path key) (hk.patProps _ (alookup_mem hf) _ x hx))
    · exact h

theorem patSecondLoop (O : Oracles) {k : IKids} (hk : k.All (VInv I Q)) (path : String) (kvs : List (String × JVal))
    (hq : ∀ kv ∈ kvs, Q kv.2) (res : Res) (h : I path res) : I path (patSecondLoop O k path kvs res) := by
  fun_induction Impl.patSecondLoop O k path kvs res with
  | case1 => exact h
  | case2 key x rest res res' _ _ e _ ih =>
    exact ih (List.forall_mem_cons.mp hq).2
      (T.patApply O path key x (hq (key, x) List.mem_cons_self) hk.patProps res false [] h e)
  | case3 key x rest res res' _ pats e _ _ ih =>
    have hx := hq (key, x) List.mem_cons_self
    exact ih (List.forall_mem_cons.mp hq).2
      (T.foldPats hk path key x hx _ _ (T.patApply O path key x hx hk.patProps res false [] h e))

theorem objectValidate (O : Oracles) (b : SBase) (defaults : List String) {k : IKids} (hk : k.All (VInv I Q))
    (path : String) (kvs : List (String × JVal)) (hq : Q (.obj kvs)) :
    I path (objectValidate cfg opts O b defaults k path kvs) := by
  have hsub := T.obj hq
  fun_cases Impl.objectValidate cfg opts O b defaults k path kvs with
  | case1 => exact T.sErr (T.own (m := eTooFewProps path) rfl rfl)
  | case2 => exact T.sErr (T.own (m := eTooManyProps path) rfl rfl)
  | case3 =>
    refine T.patSecondLoop O hk _ _ hsub _ (T.addErrors _ (T.propsLoop _ _ hsub hk.props _ ?_) fun m hm => ?_)
    · exact of_ite (I path) (T.noAdditionalLoop O k path hq kvs (fun _ h => h) _ (T.precheck kvs (T.empty _)))
        (T.additionalLoop O hk path kvs hsub _ (T.precheck kvs (T.empty _)))
    · obtain ⟨name, _, hn⟩ := List.mem_map.mp hm
      split at hn
      · cases hn
      · split at hn
        · cases hn
        · cases hn; exact T.msg (.inl (pre_dot path name)) rfl

/-! ### one node, the tree, references by fuel -/

theorem nodeValidate (O : Oracles) (b : SBase) (defaults : Defaults) {k : IKids} (hk : k.All (VInv I Q)) :
    VInv I Q (nodeValidate cfg opts O b defaults k) := by
  intro path v hq
  unfold Impl.nodeValidate
  have hT : OptInv I path (some (Impl.typeValidate cfg O b path v)) := T.typeValidate O b path v
  have hP : OptInv I path (some (Impl.schemaPropsValidate cfg b k path v)) := T.schemaPropsValidate b hk path v hq
  have hC := T.commonValidate b path v
  split
  · exact T.merge1 (T.merge1 (T.empty _) hT) hC
  · apply T.inc
    have s2 := T.step true (T.step (typeApplies b) (T.empty path) hT) hP
    cases v with
    | null => exact T.step true s2 hC
    | bool x => exact T.step true s2 hC
    | num n => exact T.step true (T.step true s2 (T.numberValidate O b path n)) hC
    | str s =>
      exact T.step true (T.step _ (T.step true s2 (T.stringValidate O b path s)) (T.formatValidate O b path s)) hC
    | arr xs => exact T.step true (T.step true s2 (T.sliceValidate b hk path xs (T.arr hq))) hC
    | obj kvs => exact T.step true (T.step true s2 hC) (T.objectValidate O b defaults hk path kvs hq)

theorem validate (O : Oracles) (r : String → V) (known : String → Bool)
    (hr : ∀ name, known name = true → VInv I Q (r name)) (s : Schema) (hs : refsKnown known s = true) :
    VInv I Q (validate cfg opts O r s) :=
  validate_all cfg opts O r known hr (fun b d _ hk => T.nodeValidate O b d hk) s hs

/-- With `$ref` resolved by fuel, exhausted fuel is a plain error without a name, and a reference that does not resolve
    is the documented panic: so either no known reference is dangling or the panic has to be harmless. -/
theorem validateF (O : Oracles) (defs : String → Option Schema) (known : String → Bool)
    (hdefs : ∀ name t, defs name = some t → refsKnown known t = true)
    (hdang : ∀ name, known name = true → defs name = none → ∀ p, I p Impl.panic)
    (n : Nat) (s : Schema) (hs : refsKnown known s = true) : VInv I Q (validateF cfg opts O defs n s) := by
  induction n generalizing s with
  | zero => exact T.validate O _ known (fun _ _ _ _ _ => T.sErr (T.msg (.inr rfl) rfl)) s hs
  | succ n ih =>
    refine T.validate O _ known (fun name hk p x hx => ?_) s hs
    cases hd : defs name with
    | none => exact hdang name hk hd p
    | some t => exact ih t (hdefs name t hd) p x hx

end TreeInv
end VM
