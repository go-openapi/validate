/-
  C15 — the regexp cache under every schedule: every published entry is the compilation of its own key (`CInv`, kept by
  `step_inv`), and under the lock discipline (`LInv`) no entry is ever lost (`step_keeps_entries`).
-/
import VM.Impl.RexpCache
namespace VM.Rexp

def CacheOk (valid : Pat → Bool) (c : Cache) : Prop := ∀ k r, (k, r) ∈ c → r = k ∧ valid k = true

theorem lookup_mem {k r : Pat} : ∀ {c : Cache}, lookup k c = some r → (k, r) ∈ c
  | (k', r') :: rest, h => by
    simp only [lookup] at h
    split at h
    · cases h; subst k'; exact .head _
    · exact .tail _ (lookup_mem h)

def TSOk (valid : Pat → Bool) : TS → Prop
  | .idle => True
  | .loaded _ c => CacheOk valid c
  | .miss _ => True
  | .wantLock r => valid r = true
  | .locked r => valid r = true
  | .lockedLoaded r c => valid r = true ∧ CacheOk valid c
  | .unlocking r => valid r = true
  | .done p res => res = (if valid p then some p else none)

def CInv (valid : Pat → Bool) (g : G) : Prop := CacheOk valid g.published ∧ ∀ t, TSOk valid (g.th t)

theorem setTh_th (g : G) (t x : Nat) (s : TS) : (setTh g t s).th x = if x = t then s else g.th x := rfl

theorem setTh_inv {valid g t s} (hc : CacheOk valid g.published) (hall : ∀ x, TSOk valid (g.th x)) (hs : TSOk valid s) :
    CInv valid (setTh g t s) := by
  refine ⟨hc, fun x => ?_⟩
  rw [setTh_th]
  split
  · exact hs
  · exact hall x

theorem step_inv (valid : Pat → Bool) (g : G) (t : Nat) (req : Pat) (h : CInv valid g) :
    CInv valid (step valid id g t req) := by
  obtain ⟨hc, hall⟩ := h
  have ht := hall t
  -- one case per transition of `step`, in its order; `at_` says where thread `t` stands, and so what `ht` says it knows
  fun_cases step valid id g t req
  case case1 => exact setTh_inv hc hall hc
  case case2 p c at_ r hl =>
    rw [at_] at ht
    have := ht _ _ (lookup_mem hl)
    exact setTh_inv hc hall (show some r = _ by rw [this.1, if_pos this.2])
  case case3 => exact setTh_inv hc hall trivial
  case case4 hv => exact setTh_inv hc hall hv
  case case5 hv => exact setTh_inv hc hall (if_neg hv).symm
  case case6 r at_ _ => rw [at_] at ht; exact setTh_inv (g := { g with lock := some t }) hc hall ht
  case case7 => exact ⟨hc, hall⟩
  case case8 r at_ => rw [at_] at ht; exact setTh_inv hc hall ⟨ht, hc⟩
  case case9 r c at_ _ _ => rw [at_] at ht; exact setTh_inv hc hall ht.1
  case case10 r c at_ _ =>
    rw [at_] at ht
    refine setTh_inv (g := { g with published := (r, r) :: c }) (fun k r' hm => ?_) hall ht.1
    rcases List.mem_cons.1 hm with e | hm
    · cases e; exact ⟨rfl, ht.1⟩
    · exact ht.2 _ _ hm
  case case11 r at_ => rw [at_] at ht; exact setTh_inv (g := { g with lock := none }) hc hall (if_pos ht).symm
  case case12 => exact setTh_inv hc hall trivial

def runSched (valid : Pat → Bool) (g : G) : List (Nat × Pat) → G
  | [] => g
  | (t, req) :: rest => runSched valid (step valid id g t req) rest

theorem reachable_inv (valid : Pat → Bool) : ∀ (sched : List (Nat × Pat)) (g : G), CInv valid g → CInv valid (runSched valid g sched)
  | [], _, h => h
  | (t, req) :: rest, g, h => reachable_inv valid rest _ (step_inv valid g t req h)

def g0 : G := { published := [], lock := none, th := fun _ => .idle }

theorem reachable_g0 (valid : Pat → Bool) (sched : List (Nat × Pat)) : CInv valid (runSched valid g0 sched) :=
  reachable_inv valid sched g0 ⟨nofun, fun _ => trivial⟩

theorem returns_requested (valid : Pat → Bool) (sched : List (Nat × Pat)) (t : Nat) (p : Pat) (res : Option Pat)
    (h : (runSched valid g0 sched).th t = .done p res) : res = (if valid p then some p else none) := by
  have := (reachable_g0 valid sched).2 t
  rwa [h] at this


/-! ### entries are never lost (this is what the mutex and the load *inside* it are for) -/

def holdsLock : TS → Bool
  | .locked _ | .lockedLoaded _ _ | .unlocking _ => true
  | _ => false

/-- lock discipline: only the lock holder is in the critical section, and the snapshot it
    took inside the critical section is still the published map -/
def LInv (g : G) : Prop :=
  (∀ t, holdsLock (g.th t) = true → g.lock = some t) ∧
  (∀ t r c, g.th t = .lockedLoaded r c → c = g.published)

theorem lookup_cons_ne_none (k k' r : Pat) (c : Cache) (h : lookup k c ≠ none) :
    lookup k ((k', r) :: c) ≠ none := by
  rw [lookup]
  split
  · nofun
  · exact h

theorem linv_setTh {g : G} (h : LInv g) {t : Nat} {s : TS} {lock' : Option Nat} {pub' : Cache}
    (hs1 : holdsLock s = true → lock' = some t) (hs2 : ∀ r c, s = .lockedLoaded r c → c = pub')
    (hoth : ∀ x, x ≠ t → g.lock = some x → lock' = g.lock ∧ pub' = g.published) :
    LInv (setTh ⟨pub', lock', g.th⟩ t s) := by
  constructor
  · intro x hx
    rw [setTh_th] at hx
    split at hx
    · subst x; exact hs1 hx
    · have := h.1 x hx
      exact (hoth x ‹_› this).1 ▸ this
  · intro x r c hx
    rw [setTh_th] at hx
    split at hx
    · exact hs2 r c hx
    · exact (hoth x ‹_› (h.1 x (by rw [hx]; rfl))).2 ▸ h.2 x r c hx

theorem step_keeps_entries (valid : Pat → Bool) (keyOf : Pat → Pat) (g : G) (t : Nat) (req : Pat)
    (h : LInv g) :
    LInv (step valid keyOf g t req) ∧
    ∀ k, lookup k g.published ≠ none → lookup k (step valid keyOf g t req).published ≠ none := by
  have same : ∀ x, x ≠ t → g.lock = some x → g.lock = g.lock ∧ g.published = g.published :=
    fun _ _ _ => ⟨rfl, rfl⟩
  -- a step that leaves `t` outside the critical section and touches nothing else
  have out : ∀ s, holdsLock s = false → LInv (setTh g t s) ∧
      ∀ k, lookup k g.published ≠ none → lookup k (setTh g t s).published ≠ none :=
    fun s hs => ⟨linv_setTh h (fun e => nomatch hs ▸ e) (fun _ _ e => nomatch e ▸ hs) same, fun _ hk => hk⟩
  -- while `t` has the lock nobody else does
  have mine : g.lock = some t → ∀ {P : Prop} x, x ≠ t → g.lock = some x → P :=
    fun hlk _ x ne e => absurd (Option.some.inj (hlk ▸ e)) (Ne.symm ne)
  have held : holdsLock (g.th t) = true → g.lock = some t := h.1 t
  -- one case per transition of `step`, in its order; `at_` says where thread `t` stands
  fun_cases step valid keyOf g t req
  case case1 | case2 | case3 | case4 | case5 | case12 => exact out _ rfl
  case case6 r _ hnone => exact ⟨linv_setTh h (fun _ => rfl) nofun (fun _ _ e => nomatch hnone ▸ e), fun _ hk => hk⟩
  case case7 => exact ⟨h, fun _ hk => hk⟩
  case case8 r at_ =>
    exact ⟨linv_setTh h (fun _ => held (at_ ▸ rfl)) (fun _ _ e => by cases e; rfl) same, fun _ hk => hk⟩
  case case9 r c at_ _ _ => exact ⟨linv_setTh h (fun _ => held (at_ ▸ rfl)) nofun same, fun _ hk => hk⟩
  case case10 r c at_ _ =>
    exact ⟨linv_setTh h (fun _ => held (at_ ▸ rfl)) nofun (mine (held (at_ ▸ rfl))),
      fun k hk => lookup_cons_ne_none _ _ _ _ (h.2 t r c at_ ▸ hk)⟩
  case case11 r at_ => exact ⟨linv_setTh h nofun nofun (mine (held (at_ ▸ rfl))), fun _ hk => hk⟩

def runSchedK (valid : Pat → Bool) (keyOf : Pat → Pat) (g : G) : List (Nat × Pat) → G
  | [] => g
  | (t, req) :: rest => runSchedK valid keyOf (step valid keyOf g t req) rest

theorem entries_never_lost (valid : Pat → Bool) (keyOf : Pat → Pat) :
    ∀ (sched : List (Nat × Pat)) (g : G), LInv g → ∀ k, lookup k g.published ≠ none →
      lookup k (runSchedK valid keyOf g sched).published ≠ none
  | [], _, _, _, h => h
  | (t, req) :: rest, g, hg, k, h =>
    let s := step_keeps_entries valid keyOf g t req hg
    entries_never_lost valid keyOf rest _ s.1 k (s.2 k h)

end VM.Rexp
