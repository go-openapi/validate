/-
  Leaf validators of the implementation model agree with the draft-4 clauses of the
  specification (type, string+format, number, enum): the verdict of each, as a Boolean equation.
-/
import VM.Proofs.ResOk
import VM.Spec.Valid
namespace VM
open Impl Spec

/-- what `Cfg.floatTolerance = true` needs to be harmless -/
def OExact (O : Oracles) : Prop :=
  (∀ n, O.isIntTol n = n.isInt) ∧ (∀ n m, O.mulOfTol n m = (n / m).isInt)

theorem intTest_exact (cfg : Cfg) (O : Oracles) (h : cfg.floatTolerance = true → OExact O) (n : Rat) :
    intTest cfg O n = n.isInt := by
  unfold intTest; split
  · rename_i hc; exact (h hc).1 n
  · rfl

theorem mulTest_exact (cfg : Cfg) (O : Oracles) (h : cfg.floatTolerance = true → OExact O) (n m : Rat) :
    mulTest cfg O n m = (n / m).isInt := by
  unfold mulTest; split
  · rename_i hc; exact (h hc).2 n m
  · rfl

theorem any_typeMatches (types : List String) (v : JVal) :
    types.any (typeMatches · v) = (types.contains v.typeName || (v.isInteger && types.contains "integer")) := by
  have hne : v.typeName ≠ "integer" := by cases v <;> simp [JVal.typeName]
  induction types with
  | nil => simp
  | cons t ts ih =>
    rw [List.any_cons, ih, List.contains_cons, List.contains_cons, typeMatches]
    by_cases ht : t = "integer"
    · subst ht
      rw [beq_self_eq_true, if_pos rfl, beq_false_of_ne hne]
      cases v.isInteger <;> simp
    · rw [beq_false_of_ne ht, if_neg Bool.false_ne_true, beq_false_of_ne (Ne.symm ht), Bool.beq_comm, Bool.false_or,
        Bool.or_assoc]

/-- the tests of type.go:190-209 on Booleans: `c` guards the first one (a format is declared and the value is neither
    string nor slice), `t` the instance's type is listed, `g` its Go format is the declared one, `f` it is an integral
    float and "integer" is listed. The first test can only fail where the last one does. -/
theorem typeTests_ok (c t g f : Bool) (e₁ e₂ : Msg) :
    (if (c && !(t || g || f)) = true then sErr e₁ else if (!(t || f)) = true then sErr e₂ else emptyResult).ok
      = (t || f) := by
  cases t <;> cases f <;> cases c <;> cases g <;> rfl

theorem typeValidate_ok (cfg : Cfg) (O : Oracles) (b : SBase) (path : String) (v : JVal) (hv : v.isNull = false)
    (hfl : cfg.floatTolerance = true → OExact O)
    (hby : cfg.formatBypassesType = true →
      b.format = "" ∨ b.types.contains "number" = true ∨ b.types.contains "integer" = true) :
    (typeValidate cfg O b path v).ok = (b.types.contains v.typeName || (v.isInteger && b.types.contains "integer")) := by
  -- the bypass for strings and slices with a format is never taken
  have hby' : (cfg.formatBypassesType && !(b.types.contains "number" || b.types.contains "integer") && b.format != "")
      = false := by
    cases hc : cfg.formatBypassesType
    · rfl
    · rcases hby hc with h | h | h <;> rw [h] <;> simp
  cases v with
  | null => cases hv
  | _ =>
    simp only [typeValidate, intTest_exact cfg O hfl, hby', Bool.false_and, Bool.false_eq_true, if_false]
    exact typeTests_ok (_ && _) _ _ _ _ _

/-- type.go vs. `type` of draft 4, where the validator applies -/
theorem type_verdict (cfg : Cfg) (O : Oracles) (b : SBase) (path : String) (v : JVal)
    (hfl : cfg.floatTolerance = true → OExact O)
    (hfmt : b.format ≠ "" → b.types ≠ [])
    (hby : cfg.formatBypassesType = true →
      b.format = "" ∨ b.types.contains "number" = true ∨ b.types.contains "integer" = true)
    (hnull : b.nullable = false) :
    (!typeApplies b || (typeValidate cfg O b path v).ok) = typeOK b.types v := by
  have happ : typeApplies b = !b.types.isEmpty := by
    unfold typeApplies
    by_cases hf : b.format = ""
    · simp [hf]
    · simp [hfmt hf]
  rw [happ, Bool.not_not, typeOK, any_typeMatches]
  cases v with
  | null =>
    simp only [typeValidate, hnull, ok_ite_sErr, JVal.typeName, JVal.isInteger]
    cases b.types.isEmpty <;> cases b.types.contains "null" <;> rfl
  | _ => rw [typeValidate_ok cfg O b path _ rfl hfl hby]

theorem gtOpt_eq (x : Int) (m : Option Int) : gtOpt x m = !atMost x m := by
  cases m with
  | none => rfl
  | some m => simp only [gtOpt, atMost, ← decide_not, Int.not_le]

theorem ltOpt_eq (x : Int) (m : Option Int) : ltOpt x m = !atLeast x m := by
  cases m with
  | none => rfl
  | some m => simp only [ltOpt, atLeast, ← decide_not, Int.not_le]

/-- validator.go:1020-1056 and formats.go:76-101 vs. the string clauses of draft 4 -/
theorem string_verdict (O : Oracles) (b : SBase) (path : String) (s : String) :
    (okOpt (stringValidate O b path s) && (!O.fmtKnown b.format || (formatValidate O b path s).ok))
      = strOK O b (.str s) := by
  have hS : okOpt (stringValidate O b path s) = (atMost s.length b.maxLength && atLeast s.length b.minLength
      && (b.pattern == "" || O.re b.pattern s == some true)) := by
    simp only [stringValidate, apply_ite okOpt, okOpt_some, okOpt_none, ok_sErr, Bool.if_false_left, gtOpt_eq, ltOpt_eq,
      Bool.decide_eq_true, Bool.not_not, Bool.not_and, bne, Bool.and_true, Bool.and_assoc]
  have hF : (formatValidate O b path s).ok = O.fmt b.format s := by
    unfold formatValidate; cases O.fmt b.format s <;> rfl
  rw [hS, hF, strOK]

/-- validator.go:883-961 vs. maximum / minimum / multipleOf of draft 4 -/
theorem number_verdict (cfg : Cfg) (O : Oracles) (b : SBase) (path : String) (n : Rat)
    (hfl : cfg.floatTolerance = true → OExact O)
    (hmul : ∀ m, b.multipleOf = some m → 0 < m) :
    (numberValidate cfg O b path n).ok = numOK b (.num n) := by
  simp only [numberValidate, numOK, ok_inc, ok_merge, ok_default, Bool.true_and, List.all_cons, List.all_nil, Bool.and_true]
  have hMul : okOpt (b.multipleOf.map fun m => if m ≤ 0 then sErr (eMulPositive path)
      else if mulTest cfg O n m = true then {} else sErr (eNotMultipleOf path)) = mulOK b n := by
    unfold mulOK
    cases h : b.multipleOf with
    | none => rfl
    | some m =>
      simp only [Option.map_some, okOpt_some, if_neg (Rat.not_le.mpr (hmul m h)), mulTest_exact cfg O hfl]
      cases (n / m).isInt <;> rfl
  have hMax : okOpt (b.maximum.map fun m => if ((!b.exclMax && n > m) || (b.exclMax && n ≥ m)) = true
      then sErr (eMax path) else {}) = maxOK b n := by
    unfold maxOK
    cases b.maximum with
    | none => rfl
    | some m => cases b.exclMax <;> simp [ok_ite_sErr, ← decide_not, Rat.not_lt, Rat.not_le]
  have hMin : okOpt (b.minimum.map fun m => if ((!b.exclMin && n < m) || (b.exclMin && n ≤ m)) = true
      then sErr (eMin path) else {}) = minOK b n := by
    unfold minOK
    cases b.minimum with
    | none => rfl
    | some m => cases b.exclMin <;> simp [ok_ite_sErr, ← decide_not, Rat.not_lt, Rat.not_le]
  rw [hMul, hMax, hMin]
  ac_rfl

/-- validator.go:273-303 vs. `enum` of draft 4 -/
theorem common_verdict (cfg : Cfg) (b : SBase) (path : String) (v : JVal)
    (hn : cfg.enumSkipsNil = true → v.isNull = false) :
    okOpt (commonValidate cfg b path v) = enumOK b.enum v := by
  have hskip : (cfg.enumSkipsNil && v.isNull) = false := by
    cases hc : cfg.enumSkipsNil
    · rfl
    · exact hn hc
  simp only [commonValidate, enumOK, hskip, Bool.false_eq_true, if_false, apply_ite okOpt, okOpt_none, okOpt_some, ok_sErr,
    Bool.if_true_left, Bool.decide_eq_true, Bool.or_false]

end VM
