/-
  One schema node: `Impl.nodeValidate` against `Spec.nodeValid`, given agreeing children. The verdict (`Res.ok`) turns
  every operation of the result algebra into a conjunction (ResOk.lean), so the verdict of each validator is an equation
  between Booleans (Leaf, Slice, Object, Comp) and that of the node is their product. That nothing panics is no part of
  these equations: it is the panic-flag instance of the invariant theorem (Invariant.lean, NoPanic.lean), claimed of
  the admissible instances.
-/
import VM.Proofs.Comp
import VM.Proofs.NoImp
import VM.Proofs.NoPanic
namespace VM
open Impl Spec

mutual
/-- instances a configuration handles like draft 4 (closed under sub-instances):
    with the null early exit or the nil-skipping enum test open, no `null` anywhere; with the `$schema`/`id` exemption open,
    no member of those names; with the IMPORTANT!-message leak open, no member called `headers` that holds objects with
    a string `$ref` (the one shape for which the code produces such a message) -/
def adm (cfg : Cfg) : JVal → Bool
  | .null => !cfg.nullSkipsComposition && !cfg.enumSkipsNil
  | .arr xs => admList cfg xs
  | .obj kvs => admMembers cfg kvs
  | _ => true
def admList (cfg : Cfg) : List JVal → Bool
  | [] => true
  | x :: xs => adm cfg x && admList cfg xs
def admMembers (cfg : Cfg) : List (String × JVal) → Bool
  | [] => true
  | (k, x) :: rest =>
    (!cfg.ignoresSchemaIdKeys || (k != "$schema" && k != "id"))
    && (!cfg.leaksImportant || k != "headers" || (headerRefErrors "" x).all Option.isNone)
    && adm cfg x && admMembers cfg rest
end

theorem admList_mem (cfg : Cfg) (xs : List JVal) (h : admList cfg xs = true) : ∀ x ∈ xs, adm cfg x = true :=
  List.all_eq_true.mp ((eq_all_of_rec (f := adm cfg) rfl (fun _ _ => rfl) xs).symm.trans h)

theorem admMembers_mem (cfg : Cfg) (kvs : List (String × JVal)) (h : admMembers cfg kvs = true) :
    (∀ kv ∈ kvs, adm cfg kv.2 = true) ∧
    (cfg.ignoresSchemaIdKeys = true → ∀ kv ∈ kvs, kv.1 ≠ "$schema" ∧ kv.1 ≠ "id") := by
  induction kvs with
  | nil => exact ⟨fun _ h => (nomatch h), fun _ _ h => (nomatch h)⟩
  | cons kv rest ih =>
    simp only [admMembers, Bool.and_eq_true, Bool.or_eq_true, Bool.not_eq_eq_eq_not, Bool.not_true, bne_iff_ne] at h
    obtain ⟨⟨⟨h1, _⟩, h2⟩, h3⟩ := h
    exact ⟨List.forall_mem_cons.mpr ⟨h2, (ih h3).1⟩, fun hc =>
      List.forall_mem_cons.mpr ⟨h1.resolve_left (by simp [hc]), (ih h3).2 hc⟩⟩

theorem adm_null {cfg : Cfg} {v : JVal} (hv : adm cfg v = true) :
    (v.isNull && cfg.nullSkipsComposition) = false ∧ (cfg.enumSkipsNil = true → v.isNull = false) := by
  cases v with
  | null =>
    rw [adm, Bool.and_eq_true, Bool.not_eq_true', Bool.not_eq_true'] at hv
    exact ⟨hv.1 ▸ rfl, fun h => by rw [hv.2] at h; cases h⟩
  | _ => exact ⟨rfl, fun _ => rfl⟩

mutual
theorem adm_quiet (cfg : Cfg) (hc : cfg.leaksImportant = true) (v : JVal) (h : adm cfg v = true) : NoImp.hdrQuiet v = true :=
  match v, h with
  | .null, _ | .bool _, _ | .num _, _ | .str _, _ => rfl
  | .arr xs, h => admList_quiet cfg hc xs h
  | .obj kvs, h => admMembers_quiet cfg hc kvs h
theorem admList_quiet (cfg : Cfg) (hc : cfg.leaksImportant = true) (xs : List JVal) (h : admList cfg xs = true) :
    NoImp.hdrQuietL xs = true :=
  match xs, h with
  | [], _ => rfl
  | x :: xs, h => by
    rw [admList, Bool.and_eq_true] at h
    rw [NoImp.hdrQuietL, adm_quiet cfg hc x h.1, admList_quiet cfg hc xs h.2]; rfl
theorem admMembers_quiet (cfg : Cfg) (hc : cfg.leaksImportant = true) (kvs : List (String × JVal))
    (h : admMembers cfg kvs = true) : NoImp.hdrQuietM kvs = true :=
  match kvs, h with
  | [], _ => rfl
  | (k, x) :: rest, h => by
    simp only [admMembers, hc, Bool.and_eq_true, Bool.not_true, Bool.false_or] at h
    rw [NoImp.hdrQuietM, adm_quiet cfg hc x h.1.2, admMembers_quiet cfg hc rest h.2, h.1.1.2]; rfl
end

structure NodeWF (cfg : Cfg) (O : Oracles) (b : SBase) (defaults : Defaults) (ik : IKids)
    (sk : SKids) : Prop where
  /-- what is kept of a failed branch is empty: the switch is closed, or no branch result carries an IMPORTANT! message -/
  keep : ∀ path v, adm cfg v = true → ∀ f, (f ∈ ik.anyOf ∨ f ∈ ik.oneOf ∨ f ∈ ik.allOf) → keepRelevant cfg (f path v) = {}
  bound : cfg.addlItemsBound = false
  float : cfg.floatTolerance = true → OExact O
  fmtTypes : b.format ≠ "" → b.types ≠ []
  bypass : cfg.formatBypassesType = true →
    b.format = "" ∨ b.types.contains "number" = true ∨ b.types.contains "integer" = true
  mulPos : ∀ m, b.multipleOf = some m → 0 < m
  nullable : b.nullable = false
  req : cfg.requiredByDefault = true → ∀ n ∈ b.required, defaults.contains n = false
  addProps : b.addProps = .schema ↔ ik.addPropsS.isSome = true
  depsNodup : (akeys sk.depSchemas ++ akeys b.depProps).Nodup

theorem KidsAgree.all {P : JVal → Prop} {ik : IKids} {sk : SKids} (hk : KidsAgree P ik sk) {Q : V → Prop}
    (hQ : ∀ f g, VAgree P f g → Q f) : ik.All Q := by
  have hO {o o'} (h : OptAgree P o o') (f : V) (hf : o = some f) : Q f := by
    subst hf
    cases h with
    | both hfg => exact hQ _ _ hfg
  have hL {fs gs} (h : ListAgree P fs gs) (f : V) (hf : f ∈ fs) : Q f := (h.forall_left f hf).elim (hQ f)
  have hM {fs gs} (h : MapAgree P fs gs) (nf : String × V) (hf : nf ∈ fs) : Q nf.2 :=
    (h.forall_left nf hf).elim fun ng h => hQ _ _ h.2
  exact ⟨hO hk.itemsS, hL hk.itemsT, hO hk.addItemsS, hM hk.props, hM hk.patProps, hO hk.addPropsS, hM hk.depSchemas,
    hL hk.allOf, hL hk.anyOf, hL hk.oneOf, hO hk.not⟩

abbrev AdmP (cfg : Cfg) : JVal → Prop := fun x => adm cfg x = true

theorem node_verdict (cfg : Cfg) (O : Oracles) (b : SBase) (defaults : Defaults) (ik : IKids)
    (sk : SKids) (hk : KidsAgree (AdmP cfg) ik sk) (hw : NodeWF cfg O b defaults ik sk)
    (path : String) (v : JVal) (hv : adm cfg v = true) :
    good (nodeValidate cfg {} O b defaults ik path v) (nodeValid O b sk v) := by
  -- no panic: the children do not panic on admissible instances, and these are closed under sub-instances
  have T := (noPanicInv cfg hw.bound {}).restrict (Q' := AdmP cfg) (fun _ _ => trivial)
    (admList_mem cfg _) fun h => (admMembers_mem cfg _ h).1
  refine ⟨T.nodeValidate O b defaults (hk.all fun f g h p x hx => (h p x hx).1) path v hv, ?_⟩
  have hT := type_verdict cfg O b path v hw.float hw.fmtTypes hw.bypass hw.nullable
  have hS := schemaProps_verdict cfg b ik sk hk path v (hw.keep path v hv) hv hw.depsNodup
  have hC := common_verdict cfg b path v (adm_null hv).2
  rw [nodeValidate, (adm_null hv).1, if_neg Bool.false_ne_true, nodeValid]
  -- every step multiplies the verdict by that of its validator; the kinds of instance differ in which validators run
  -- and, on the other side, in which clauses speak
  cases v <;> simp only [ok_inc, ok_step, okOpt_some, ok_default, hT, hS, hC, Bool.not_true, Bool.false_or]
  case null | bool => simp only [numOK, strOK, arrSizeOK, objSizeOK, itemsOK, membersOK]; ac_rfl
  case num n =>
    simp only [number_verdict cfg O b path n hw.float hw.mulPos, strOK, arrSizeOK, objSizeOK, itemsOK, membersOK]; ac_rfl
  case str s => simp only [← string_verdict O b path s, numOK, arrSizeOK, objSizeOK, itemsOK, membersOK]; ac_rfl
  case arr xs =>
    simp only [slice_verdict cfg b ik sk path xs (admList_mem cfg xs hv) hk hw.bound, numOK, strOK, objSizeOK, membersOK]
    ac_rfl
  case obj kvs =>
    obtain ⟨hm1, hm2⟩ := admMembers_mem cfg kvs hv
    simp only [object_verdict cfg O b defaults ik sk path kvs hm1 hk hm2 hw.req hw.addProps, numOK, strOK, arrSizeOK,
      itemsOK]
    ac_rfl

end VM
