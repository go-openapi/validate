/-
  Induction on schemas. `Schema` is a nested inductive (sub-schemas sit under `Option`, `List` and association
  lists), so `induction` does not apply and every recursive definition over it comes as a block of mutually recursive
  functions. `Schema.kids` flattens the direct sub-schemas into one list and `Schema.induct` is structural induction
  along it: a proof about all schemas needs one step, "if it holds of the kids it holds of the node".
-/
import VM.Schema
namespace VM

def Schema.kids : Schema → List Schema
  | .mk _ itemsS itemsT addItemsS props patProps addPropsS depSchemas allOf anyOf oneOf nt =>
    itemsS.toList ++ itemsT ++ addItemsS.toList ++ props.map (·.2) ++ patProps.map (·.2) ++ addPropsS.toList
      ++ depSchemas.map (·.2) ++ allOf ++ anyOf ++ oneOf ++ nt.toList

theorem Schema.forall_mem_kids {P : Schema → Prop} {b : SBase} {itemsS : Option Schema} {itemsT : List Schema}
    {addItemsS : Option Schema} {props patProps : List (String × Schema)} {addPropsS : Option Schema}
    {depSchemas : List (String × Schema)} {allOf anyOf oneOf : List Schema} {nt : Option Schema} :
    (∀ t ∈ (Schema.mk b itemsS itemsT addItemsS props patProps addPropsS depSchemas allOf anyOf oneOf nt).kids, P t) ↔
      (∀ t, itemsS = some t → P t) ∧ (∀ t ∈ itemsT, P t) ∧ (∀ t, addItemsS = some t → P t)
      ∧ (∀ p ∈ props, P p.2) ∧ (∀ p ∈ patProps, P p.2) ∧ (∀ t, addPropsS = some t → P t)
      ∧ (∀ p ∈ depSchemas, P p.2) ∧ (∀ t ∈ allOf, P t) ∧ (∀ t ∈ anyOf, P t) ∧ (∀ t ∈ oneOf, P t)
      ∧ (∀ t, nt = some t → P t) := by
  simp only [Schema.kids, List.forall_mem_append, List.forall_mem_map, Option.mem_toList, and_assoc]

mutual
theorem Schema.induct {motive : Schema → Prop} (step : ∀ s, (∀ t ∈ s.kids, motive t) → motive s) :
    ∀ s, motive s
  | .mk _ itemsS itemsT addItemsS props patProps addPropsS depSchemas allOf anyOf oneOf nt =>
    step _ <| Schema.forall_mem_kids.mpr
      ⟨fun _ h => match itemsS, h with | some s, rfl => Schema.induct step s,
       Schema.inductL step itemsT,
       fun _ h => match addItemsS, h with | some s, rfl => Schema.induct step s,
       Schema.inductM step props, Schema.inductM step patProps,
       fun _ h => match addPropsS, h with | some s, rfl => Schema.induct step s,
       Schema.inductM step depSchemas, Schema.inductL step allOf, Schema.inductL step anyOf, Schema.inductL step oneOf,
       fun _ h => match nt, h with | some s, rfl => Schema.induct step s⟩
theorem Schema.inductL {motive : Schema → Prop} (step : ∀ s, (∀ t ∈ s.kids, motive t) → motive s) :
    ∀ l : List Schema, ∀ t ∈ l, motive t
  | [], _, h => nomatch h
  | s :: ss, t, h => (List.mem_cons.mp h).elim (fun e => e ▸ Schema.induct step s) (Schema.inductL step ss t)
theorem Schema.inductM {motive : Schema → Prop} (step : ∀ s, (∀ t ∈ s.kids, motive t) → motive s) :
    ∀ l : List (String × Schema), ∀ p ∈ l, motive p.2
  | [], _, h => nomatch h
  | (_, s) :: ps, p, h => (List.mem_cons.mp h).elim (fun e => e ▸ Schema.induct step s) (Schema.inductM step ps p)
end

end VM
