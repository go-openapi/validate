/-
  C05 — interleaved disciplined clients: a step of thread `t` leaves what the other threads see of the heap alone (frame
  lemmas), so every thread's result under any schedule is its result alone on fresh objects (`interleaving_independent`).
-/
import VM.Impl.Concurrent
import VM.Proofs.PoolProof
namespace VM.Conc
open VM.Pool

variable {H : Type} [DecidableEq H] {R : Type}

theorem tag_tagged (t : Nat) : ∀ p : Prog H R, Tagged t (tag t p)
  | .ret _ => trivial
  | .borrow _ k => ⟨rfl, tag_tagged t k⟩
  | .write _ _ _ k => ⟨rfl, tag_tagged t k⟩
  | .read _ _ k => ⟨rfl, fun v => tag_tagged t (k v)⟩
  | .redeem _ k => ⟨rfl, tag_tagged t k⟩

theorem fresh_frame (t : Nat) : ∀ (p : Prog (Nat × H) R) (τ τ' : Nat × H → Obj),
    Tagged t p → (∀ h, h.1 = t → τ h = τ' h) → runFresh p τ = runFresh p τ'
  | .ret _, _, _, _, _ => rfl
  | .borrow h k, _, _, ht, he => fresh_frame t k _ _ ht.2 fun _ e => upd_congr h _ (he _ e)
  | .write h _ _ k, _, _, ht, he => by
    simp only [runFresh, he h ht.1]
    exact fresh_frame t k _ _ ht.2 fun _ e => upd_congr h _ (he _ e)
  | .read h _ k, _, _, ht, he => by
    simp only [runFresh, he h ht.1]
    exact fresh_frame t (k _) _ _ (ht.2 _) he
  | .redeem _ k, _, _, ht, he => fresh_frame t k _ _ ht.2 he

theorem disc_frame (t : Nat) : ∀ (p : Prog (Nat × H) R) (L L' : Live (Nat × H)),
    Tagged t p → (∀ h, h.1 = t → L h = L' h) → Disciplined p L → Disciplined p L'
  | .ret _, _, _, _, _, _ => trivial
  | .borrow h k, _, _, ht, he, hd =>
    ⟨he h ht.1 ▸ hd.1, disc_frame t k _ _ ht.2 (fun _ e => upd_congr h _ (he _ e)) hd.2⟩
  | .write h _ _ k, _, _, ht, he, ⟨w, hw, hk⟩ =>
    ⟨w, he h ht.1 ▸ hw, disc_frame t k _ _ ht.2 (fun _ e => upd_congr h _ (he _ e)) hk⟩
  | .read h _ k, _, _, ht, he, ⟨w, hw, hf, hk⟩ =>
    ⟨w, he h ht.1 ▸ hw, hf, fun v => disc_frame t (k v) _ _ (ht.2 v) he (hk v)⟩
  | .redeem h k, _, _, ht, he, ⟨⟨w, hw⟩, hk⟩ =>
    ⟨⟨w, he h ht.1 ▸ hw⟩, disc_frame t k _ _ ht.2 (fun _ e => upd_congr h _ (he _ e)) hk⟩

theorem getElem?_set_eq_some {α} {ps : List α} {s t : Nat} {k p : α} (h : (ps.set s k)[t]? = some p) :
    t = s ∧ p = k ∨ t ≠ s ∧ ps[t]? = some p := by
  rw [List.getElem?_set] at h
  split at h
  · split at h
    · exact .inl ⟨‹s = t›.symm, (Option.some.inj h).symm⟩
    · cases h
  · exact .inr ⟨Ne.symm ‹_›, h⟩

theorem upd_off_thread {β} {m : Nat × H → β} {hh h' : Nat × H} {s : Nat} (b : β) (hs : hh.1 = s) (ne : h'.1 ≠ s) :
    upd m hh b h' = m h' :=
  upd_other m hh b h' fun e => ne (e ▸ hs)

def AllDisc (ps : List (Prog (Nat × H) R)) (L : Live (Nat × H)) : Prop :=
  ∀ t p, ps[t]? = some p → Tagged t p ∧ Disciplined p L

theorem allDisc_step {ps : List (Prog (Nat × H) R)} {L L' : Live (Nat × H)} {t : Nat}
    {k : Prog (Nat × H) R} (h : AllDisc ps L) (hk : Tagged t k ∧ Disciplined k L')
    (hL : ∀ h', h'.1 ≠ t → L' h' = L h') : AllDisc (ps.set t k) L' := by
  intro t' p hp
  rcases getElem?_set_eq_some hp with ⟨rfl, rfl⟩ | ⟨ne, hp⟩
  · exact hk
  · have ⟨h1, h2⟩ := h t' p hp
    exact ⟨h1, disc_frame t' p L L' h1 (fun h' e => (hL h' (e ▸ ne)).symm) h2⟩

theorem weave_disciplined : ∀ (sched : List Nat) (ps : List (Prog (Nat × H) R)) (L : Live (Nat × H)),
    AllDisc ps L → Disciplined (weave sched ps) L
  | [], _, _, _ => trivial
  | t :: rest, ps, L, h => by
    unfold weave
    split
    · exact weave_disciplined rest ps L h
    · exact weave_disciplined rest ps L h
    · next hp =>
      have ⟨ht, hd⟩ := h t _ hp
      exact ⟨hd.1, weave_disciplined rest _ _ (allDisc_step h ⟨ht.2, hd.2⟩ fun _ => upd_off_thread _ ht.1)⟩
    · next hp =>
      have ⟨ht, w, hw, hk⟩ := h t _ hp
      exact ⟨w, hw, weave_disciplined rest _ _ (allDisc_step h ⟨ht.2, hk⟩ fun _ => upd_off_thread _ ht.1)⟩
    · next hp =>
      have ⟨ht, w, hw, hf, hk⟩ := h t _ hp
      exact ⟨w, hw, hf, fun v => weave_disciplined rest _ _ (allDisc_step h ⟨ht.2 v, hk v⟩ fun _ _ => rfl)⟩
    · next hp =>
      have ⟨ht, hw, hk⟩ := h t _ hp
      exact ⟨hw, weave_disciplined rest _ _ (allDisc_step h ⟨ht.2, hk⟩ fun _ => upd_off_thread _ ht.1)⟩

theorem finished_fresh (p : Prog (Nat × H) R) (r : R) (τ : Nat × H → Obj) (h : finished p = some r) :
    runFresh p τ = r := by
  cases p <;> cases h
  rfl

theorem weave_fresh_sound : ∀ (sched : List Nat) (ps : List (Prog (Nat × H) R)) (τ : Nat × H → Obj),
    (∀ t p, ps[t]? = some p → Tagged t p) →
    ∀ (t : Nat) (r : R), (runFresh (weave sched ps) τ)[t]? = some (some r) →
      ∃ p, ps[t]? = some p ∧ runFresh p τ = r
  | [], ps, τ, _, t, r, hr => by
    simp only [weave, runFresh, List.getElem?_map, Option.map_eq_some_iff] at hr
    obtain ⟨p, hp, hr⟩ := hr
    exact ⟨p, hp, finished_fresh p r τ hr⟩
  | s :: rest, ps, τ, htag, t, r, hr => by
    unfold weave at hr
    -- thread `s` goes from `instr` to `k`, turning `τ` into `τ'`, which the other threads cannot tell from `τ`
    have step : ∀ (k : Prog (Nat × H) R) (τ' : Nat × H → Obj) (instr : Prog (Nat × H) R),
        ps[s]? = some instr → Tagged s k → (∀ h', h'.1 ≠ s → τ' h' = τ h') →
        runFresh instr τ = runFresh k τ' →
        (runFresh (weave rest (ps.set s k)) τ')[t]? = some (some r) →
        ∃ p, ps[t]? = some p ∧ runFresh p τ = r := by
      intro k τ' instr hi hk hfr hrun hres
      have htag' : ∀ t' p, (ps.set s k)[t']? = some p → Tagged t' p := fun t' p hp => by
        rcases getElem?_set_eq_some hp with ⟨rfl, rfl⟩ | ⟨-, hp⟩
        · exact hk
        · exact htag t' p hp
      obtain ⟨p, hp, hpr⟩ := weave_fresh_sound rest _ τ' htag' t r hres
      rcases getElem?_set_eq_some hp with ⟨rfl, rfl⟩ | ⟨ne, hp⟩
      · exact ⟨instr, hi, hrun.trans hpr⟩
      · exact ⟨p, hp, (fresh_frame t p τ τ' (htag t p hp) fun h' e => (hfr h' (e ▸ ne)).symm).trans hpr⟩
    split at hr
    · exact weave_fresh_sound rest ps τ htag t r hr
    · exact weave_fresh_sound rest ps τ htag t r hr
    · next hp => exact step _ _ _ hp (htag s _ hp).2 (fun _ => upd_off_thread _ (htag s _ hp).1) rfl hr
    · next hp => exact step _ _ _ hp (htag s _ hp).2 (fun _ => upd_off_thread _ (htag s _ hp).1) rfl hr
    · next hp => exact step _ τ _ hp ((htag s _ hp).2 _) (fun _ _ => rfl) rfl hr
    · next hp => exact step _ τ _ hp (htag s _ hp).2 (fun _ _ => rfl) rfl hr

theorem interleaving_independent (sched : List Nat) (ps : List (Prog (Nat × H) R))
    (chooser : List (Option Nat)) (L : Live (Nat × H)) (σ : PState (Nat × H)) (τ : Nat × H → Obj)
    (hd : AllDisc ps L) (hs : Sim L σ τ) (t : Nat) (r : R)
    (hr : (runPool (weave sched ps) chooser σ)[t]? = some (some r)) :
    ∃ p, ps[t]? = some p ∧ runFresh p τ = r := by
  rw [recycling_invisible (weave sched ps) chooser L σ τ (weave_disciplined sched ps L hd) hs] at hr
  exact weave_fresh_sound sched ps τ (fun t p hp => (hd t p hp).1) t r hr

end VM.Conc
