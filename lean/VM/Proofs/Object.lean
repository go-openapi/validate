/-
  The object validator of the model (object_validator.go) against the object clauses of
  draft 4.
-/
import VM.Proofs.Slice
namespace VM
open Impl Spec

theorem anyPatMatches_eq (O : Oracles) (fs : List (String × V)) (key : String) :
    anyPatMatches O fs key = patMatches O (akeys fs) key := by
  simp only [anyPatMatches, patMatches, akeys, List.any_map, Function.comp_def]

/-- object_validator.go:392-427, `validatePatternProperty`: verdict, whether any pattern matched, those that did -/
theorem patApply_spec {P : JVal → Prop} {fs : List (String × V)} {gs : List (String × (JVal → Bool))}
    (h : MapAgree P fs gs) (O : Oracles) (path key : String) (x : JVal) (hx : P x) (res : Res) (m : Bool)
    (pats : List String) (hp : ∀ p ∈ pats, (O.re p key == some true) = true) :
    (patApply O path key x fs res m pats).1.ok = (res.ok && gs.all fun pf => !(O.re pf.1 key == some true) || pf.2 x)
    ∧ (patApply O path key x fs res m pats).2.1 = (m || patMatches O (akeys gs) key)
    ∧ ∀ p ∈ (patApply O path key x fs res m pats).2.2, (O.re p key == some true) = true := by
  induction h generalizing res m pats with
  | nil => simpa [patApply, patMatches, akeys] using hp
  | @cons fa gb as bs hab _ ih =>
    obtain ⟨ka, f⟩ := fa; obtain ⟨kb, g⟩ := gb
    obtain rfl : ka = kb := hab.1
    simp only [patApply, List.all_cons, patMatches, akeys, List.map_cons, List.any_cons] at ih ⊢
    split
    · rename_i hm
      obtain ⟨h1, h2, h3⟩ := ih (res.mergeOne (f (dot path key) x)) true (pats ++ [ka]) fun p hp' =>
        (List.mem_append.mp hp').elim (hp p) fun h => List.mem_singleton.mp h ▸ hm
      exact ⟨by rw [h1, ok_mergeOne, VAgree.ok hab.2 _ hx, hm, Bool.not_true, Bool.false_or, Bool.and_assoc],
        (by rw [h2, hm, Bool.true_or, Bool.or_true]), h3⟩
    · rename_i hm
      obtain ⟨h1, h2, h3⟩ := ih res m pats hp
      rw [Bool.not_eq_true] at hm
      exact ⟨by rw [h1, hm, Bool.not_false, Bool.true_or, Bool.true_and], by rw [h2, hm, Bool.false_or], h3⟩

/-- object_validator.go:213-218: the second validation of matched pattern properties adds
    nothing to the verdict once the first pass has been merged -/
theorem patSecond_fold_ok {P : JVal → Prop} {fs : List (String × V)}
    {gs : List (String × (JVal → Bool))} (h : MapAgree P fs gs) (O : Oracles)
    (path key : String) (x : JVal) (hx : P x) (pats : List String)
    (hp : ∀ p ∈ pats, (O.re p key == some true) = true) (res : Res)
    (hfirst : res.ok = true → gs.all (fun pf => !(O.re pf.1 key == some true) || pf.2 x) = true) :
    (pats.foldl (fun acc p => match alookup p fs with
        | some f => acc.mergeOne (f (dot path key) x)
        | none => acc) res).ok = res.ok := by
  induction pats generalizing res with
  | nil => rfl
  | cons p ps ih =>
    have hps := fun q hq => hp q (List.mem_cons_of_mem _ hq)
    rw [List.foldl_cons]
    rcases h.alookup p with ⟨h1, _⟩ | ⟨f, g, h1, h2, hfg⟩ <;> simp only [h1]
    · exact ih hps res hfirst
    · have e : (res.mergeOne (f (dot path key) x)).ok = res.ok := by
        rw [ok_mergeOne, hfg.ok _ hx]
        cases hr : res.ok
        · rfl
        · have := List.all_eq_true.mp (hfirst hr) (p, g) (alookup_mem h2)
          rw [hp p List.mem_cons_self] at this
          exact this
      exact (ih hps _ fun hr => hfirst (e ▸ hr)).trans e

theorem patSecondLoop_ok {P : JVal → Prop} (ik : IKids) (sk : SKids)
    (h : MapAgree P ik.patProps sk.patProps) (O : Oracles) (path : String)
    (kvs : List (String × JVal)) (hx : ∀ kv ∈ kvs, P kv.2) (res : Res) :
    (patSecondLoop O ik path kvs res).ok = (res.ok && patsOK O sk kvs) := by
  induction kvs generalizing res with
  | nil => simp only [patSecondLoop, patsOK, List.all_nil, Bool.and_true]
  | cons kv rest ih =>
    obtain ⟨key, x⟩ := kv
    have hxx : P x := hx (key, x) List.mem_cons_self
    have ih := ih fun kv hkv => hx kv (List.mem_cons_of_mem _ hkv)
    obtain ⟨hpa, _, hpp⟩ := patApply_spec h O path key x hxx res false [] fun _ h => nomatch h
    simp only [patSecondLoop, patsOK, List.all_cons, ← Bool.and_assoc] at ih ⊢
    split
    · rw [ih, hpa]; rfl
    · rw [ih]
      refine congrArg (· && _) (Eq.trans ?_ hpa)
      exact patSecond_fold_ok h O path key x hxx _ hpp _ fun hr => ((Bool.and_eq_true _ _).mp (hpa ▸ hr)).2

theorem propsLoop_ok {P : JVal → Prop} {fs : List (String × V)}
    {gs : List (String × (JVal → Bool))} (h : MapAgree P fs gs) (path : String)
    (kvs : List (String × JVal)) (hx : ∀ kv ∈ kvs, P kv.2) (res : Res) :
    (propsLoop path kvs fs res).ok = (res.ok && gs.all (propOK kvs)) := by
  induction h generalizing res with
  | nil => simp only [propsLoop, List.all_nil, Bool.and_true]
  | @cons fa gb as bs hab _ ih =>
    obtain ⟨ka, f⟩ := fa; obtain ⟨kb, g⟩ := gb
    obtain rfl : ka = kb := hab.1
    rw [propsLoop, List.all_cons, propOK]
    cases hl : alookup ka kvs with
    | none => simp only [ih, Bool.true_and]
    | some x => simp only [ih, ok_mergeOne, VAgree.ok hab.2 _ (hx _ (alookup_mem hl)), Bool.and_assoc]

theorem noAdditionalLoop_ok (cfg : Cfg) (O : Oracles) (ik : IKids) (sk : SKids)
    (hp : akeys ik.props = akeys sk.props) (hpp : akeys ik.patProps = akeys sk.patProps)
    (path : String) (kvs : List (String × JVal))
    (hid : cfg.ignoresSchemaIdKeys = true → ∀ kv ∈ kvs, kv.1 ≠ "$schema" ∧ kv.1 ≠ "id") (res : Res) :
    (noAdditionalLoop cfg O ik path kvs res).ok = (res.ok && kvs.all fun kv => !isAdditional O sk kv.1) := by
  induction kvs generalizing res with
  | nil => simp only [noAdditionalLoop, List.all_nil, Bool.and_true]
  | cons kv rest ih =>
    obtain ⟨key, x⟩ := kv
    have ih := ih fun hc kv hkv => hid hc kv (List.mem_cons_of_mem _ hkv)
    have hskip : (cfg.ignoresSchemaIdKeys && (key == "$schema" || key == "id")) = false := by
      cases hc : cfg.ignoresSchemaIdKeys
      · rfl
      · simp [hid hc (key, x) List.mem_cons_self]
    have hA : (!isAdditional O sk key) = (ahas key sk.props || patMatches O (akeys sk.patProps) key) := Bool.not_not _
    simp only [noAdditionalLoop, hskip, Bool.false_eq_true, ↓reduceIte, ahas_congr hp, anyPatMatches_eq, hpp,
      apply_ite Res.ok, ih, List.all_cons, hA, ok_addErrors]
    cases ahas key sk.props <;> cases patMatches O (akeys sk.patProps) key <;> simp

theorem additionalLoop_ok {P : JVal → Prop} (O : Oracles) (ik : IKids) (sk : SKids)
    (hp : akeys ik.props = akeys sk.props) (hpp : MapAgree P ik.patProps sk.patProps)
    (hA : OptAgree P ik.addPropsS sk.addPropsS)
    (path : String) (kvs : List (String × JVal)) (hx : ∀ kv ∈ kvs, P kv.2) (res : Res) :
    (additionalLoop O ik path kvs res).ok = (res.ok && kvs.all fun kv => ahas kv.1 sk.props ||
      (patsOKFor O sk kv.1 kv.2 && (patMatches O (akeys sk.patProps) kv.1 || sk.addPropsS.all (· kv.2)))) := by
  induction kvs generalizing res with
  | nil => simp only [additionalLoop, List.all_nil, Bool.and_true]
  | cons kv rest ih =>
    obtain ⟨key, x⟩ := kv
    have hxx : P x := hx (key, x) List.mem_cons_self
    have ih := ih fun kv hkv => hx kv (List.mem_cons_of_mem _ hkv)
    obtain ⟨hok, hm, _⟩ := patApply_spec hpp O path key x hxx res false [] fun _ h => nomatch h
    rw [Bool.false_or] at hm
    simp only [additionalLoop, ahas_congr hp, List.all_cons]
    generalize patApply O path key x ik.patProps res false [] = out at hok hm
    obtain ⟨res', matched, pats⟩ := out
    simp only at hok hm ⊢
    subst hm
    rcases hA.cases with ⟨hi, hs⟩ | ⟨f, g, hi, hs, hfg⟩
    · simp only [hi, hs, Option.all_none, apply_ite Res.ok, ih, hok, patsOKFor]
      cases ahas key sk.props <;> cases patMatches O (akeys sk.patProps) key <;> simp [Bool.and_assoc]
    · simp only [hi, hs, Option.all_some, apply_ite Res.ok, ih, ok_mergeOne, hfg.ok _ hxx, hok, patsOKFor]
      cases ahas key sk.props <;> cases patMatches O (akeys sk.patProps) key <;> simp [Bool.and_assoc]

theorem all_and_split {α : Type} (l : List α) (p q : α → Bool) :
    l.all (fun x => p x && q x) = (l.all p && l.all q) := by
  induction l with
  | nil => rfl
  | cons x xs ih => simp only [List.all_cons, ih]; ac_rfl

theorem addlPropsOK_eq (O : Oracles) (b : SBase) (sk : SKids) (kvs : List (String × JVal))
    (hfalse : b.addProps ≠ .bool false) (hadd : b.addProps = .schema ↔ sk.addPropsS.isSome = true) :
    addlPropsOK O b sk kvs = kvs.all fun kv => !isAdditional O sk kv.1 || sk.addPropsS.all (· kv.2) := by
  unfold addlPropsOK
  cases hs : sk.addPropsS with
  | none =>
    -- no schema to ask, and additional members are not forbidden: both sides hold
    have hr : (kvs.all fun kv => !isAdditional O sk kv.1 || (none : Option (JVal → Bool)).all (· kv.2)) = true :=
      List.all_eq_true.mpr fun _ _ => Bool.or_true _
    rw [hr]
    cases hb : b.addProps with
    | bool bb =>
      cases bb with
      | false => exact absurd hb hfalse
      | true => rfl
    | _ => rfl
  | some g => rw [hadd.mpr (by rw [hs]; rfl)]; rfl

theorem precheck_off (path : String) (kvs : List (String × JVal)) (res : Res) : precheck {} path kvs res = res := rfl

/-- object_validator.go:160-222 vs. the object clauses of draft 4 (Swagger pre-checks off) -/
theorem object_verdict (cfg : Cfg) (O : Oracles) (b : SBase) (defaults : Defaults)
    (ik : IKids) (sk : SKids) {P : JVal → Prop} (path : String) (kvs : List (String × JVal))
    (hx : ∀ kv ∈ kvs, P kv.2) (hk : KidsAgree P ik sk)
    (hid : cfg.ignoresSchemaIdKeys = true → ∀ kv ∈ kvs, kv.1 ≠ "$schema" ∧ kv.1 ≠ "id")
    (hreq : cfg.requiredByDefault = true → ∀ n ∈ b.required, defaults.contains n = false)
    (hadd : b.addProps = .schema ↔ ik.addPropsS.isSome = true) :
    (objectValidate cfg {} O b defaults ik path kvs).ok = (objSizeOK b (.obj kvs) && membersOK O b sk (.obj kvs)) := by
  have hR : (b.required.all fun name => (if ahas name kvs = true then none
      else if (cfg.requiredByDefault && defaults.contains name) = true then none
      else some (eRequired (dot path name))).isNone) = b.required.all fun k => ahas k kvs := by
    refine all_congr_mem fun n hn => ?_
    cases ahas n kvs
    · cases hc : cfg.requiredByDefault
      · rfl
      · rw [hreq hc n hn]; rfl
    · rfl
  simp only [objectValidate, ok_ite_sErr, gtOpt_eq, ltOpt_eq, objSizeOK, membersOK, precheck_off, patSecondLoop_ok ik sk hk.patProps O path kvs hx,
    ok_addErrors_map, hR, propsLoop_ok hk.props path kvs hx, propsOK]
  by_cases hfalse : b.addProps = .bool false
  · simp only [hfalse, beq_self_eq_true, if_true, addlPropsOK, ok_default, Bool.decide_eq_true, Bool.not_not,
      noAdditionalLoop_ok cfg O ik sk hk.props.akeys_eq hk.patProps.akeys_eq path kvs hid]
    ac_rfl
  · simp only [beq_false_of_ne hfalse, Bool.false_eq_true, if_false, ok_default, Bool.decide_eq_true, Bool.not_not,
      additionalLoop_ok O ik sk hk.props.akeys_eq hk.patProps hk.addPropsS path kvs hx]
    have hadd' : b.addProps = .schema ↔ sk.addPropsS.isSome = true := by
      rcases hk.addPropsS.cases with ⟨hi, hs⟩ | ⟨f, g, hi, hs, _⟩ <;> rw [hadd, hi, hs] <;> rfl
    rw [addlPropsOK_eq O b sk kvs hfalse hadd']
    -- both sides have the factor `patsOK`, and where it holds the first pass over the pattern properties adds nothing
    cases hp : patsOK O sk kvs
    · simp only [Bool.and_false, Bool.false_and]
    · rw [all_congr_mem (q := fun kv => !isAdditional O sk kv.1 || sk.addPropsS.all (· kv.2)) fun kv hkv => by
        simp [List.all_eq_true.mp hp kv hkv, isAdditional, Bool.or_assoc]]
      simp only [Bool.and_true, Bool.true_and]
      ac_rfl

end VM
