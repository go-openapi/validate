/-
  The composition validator of the model (schema_props.go) against allOf / anyOf / oneOf /
  not / dependencies of draft 4.
-/
import VM.Proofs.Object
namespace VM
open Impl Spec

theorem keepRelevant_off (cfg : Cfg) (h : cfg.leaksImportant = false) (r : Res) :
    keepRelevant cfg r = {} := by
  simp [keepRelevant, h]

theorem ok_merge_opt (main : Res) (o : Option Res) :
    (main.merge [o]).ok = (main.ok && okOpt o) := by
  simp only [ok_merge, List.all_cons, List.all_nil, Bool.and_true]

section loops
variable {P : JVal → Prop} (cfg : Cfg) {fs : List V} {gs : List (JVal → Bool)} (h : ListAgree P fs gs)
  (path : String) (v : JVal) (hv : P v)
  /- what is kept of each branch is empty, so the results kept beside the main one stay without errors -/
  (hko : ∀ f ∈ fs, keepRelevant cfg (f path v) = {})
include h hv hko

/-- schema_props.go:153-193 -/
theorem anyOfLoop_ok (best : Option Res) (main keep : Res) (hk : keep.ok = true) :
    (anyOfLoop cfg path v fs best main keep).1.ok = (main.ok && gs.any (· v))
    ∧ (anyOfLoop cfg path v fs best main keep).2.ok = true := by
  induction h generalizing best main keep with
  | nil => simp [anyOfLoop, hk]
  | @cons f g fs gs hfg _ ih =>
    have ih := fun best main => ih (fun f' hf' => hko f' (List.mem_cons_of_mem _ hf')) best (absorb main (f path v))
      (keep.mergeOne {}) (by rw [ok_mergeOne, hk]; rfl)
    have hg : (f path v).ok = g v := hfg.ok path hv
    simp only [anyOfLoop, hko f List.mem_cons_self, errors_isEmpty, hg, List.any_cons]
    cases hgv : g v
    · simp only [Bool.false_eq_true, if_false, Bool.false_or]
      split <;> exact ih _ _
    · simp [hg, hgv]

/-- schema_props.go:195-252; `first`, the first valid alternative, is what is merged when exactly one is valid -/
theorem oneOfLoop_ok (first best : Option Res) (n : Nat) (main keep : Res) (hf : okOpt first = true)
    (hk : keep.ok = true) :
    (oneOfLoop cfg path v fs first best n main keep).1.ok = (main.ok && (n + countTrue gs v == 1))
    ∧ (oneOfLoop cfg path v fs first best n main keep).2.ok = true := by
  induction h generalizing first best n main keep with
  | nil =>
    rcases n with _ | _ | n <;> simp [oneOfLoop, countTrue, hf, hk]
  | @cons f g fs gs hfg _ ih =>
    have ih := fun first best n keep => ih (fun f' hf' => hko f' (List.mem_cons_of_mem _ hf')) first best n
      (absorb main (f path v)) keep
    have hg : (f path v).ok = g v := hfg.ok path hv
    have hk' : (keep.mergeOne {}).ok = true := by rw [ok_mergeOne, hk]; rfl
    simp only [oneOfLoop, hko f List.mem_cons_self, errors_isEmpty, hg, countTrue,
      List.filter_cons]
    cases hgv : g v
    · simp only [Bool.false_eq_true, if_false]
      split <;> exact ih _ _ _ _ hf hk'
    · simp only [if_true, List.length_cons, ← Nat.add_assoc, Nat.add_right_comm n _ 1]
      refine ih _ _ _ _ ?_ rfl
      cases first
      · exact hg.trans hgv
      · exact hf

/-- schema_props.go:254-278: `n` counts the valid branches, and while the main result is without errors all were -/
theorem allOfLoop_ok (total n : Nat) (htot : 0 < total) (main keep : Res) (hinv : main.ok = true → n + fs.length = total)
    (hk : keep.ok = true) :
    (allOfLoop cfg path v total fs n main keep).1.ok = (main.ok && gs.all (· v))
    ∧ (allOfLoop cfg path v total fs n main keep).2.ok = true := by
  induction h generalizing n main keep with
  | nil =>
    simp only [allOfLoop, apply_ite Prod.fst, apply_ite Prod.snd, apply_ite Res.ok, ite_self, ok_addErrors, List.all_nil,
      hk, and_true]
    cases hm : main.ok
    · simp
    · have : n = total := hinv hm
      simp [this, Nat.ne_of_gt htot]
  | @cons f g fs gs hfg _ ih =>
    have hg : (f path v).ok = g v := hfg.ok path hv
    rw [allOfLoop, hko f List.mem_cons_self, List.all_cons, ← Bool.and_assoc, ← hg, ← ok_mergeOne]
    refine ih (fun f' hf' => hko f' (List.mem_cons_of_mem _ hf')) _ _ _ (fun hm => ?_) (by rw [ok_mergeOne, hk]; rfl)
    rw [ok_mergeOne, Bool.and_eq_true] at hm
    rw [errors_isEmpty, if_pos hm.2, ← hinv hm.1, List.length_cons]
    omega

end loops

/-- the guard around each of the three loops: without alternatives nothing is validated and nothing is asked -/
theorem guarded_ok {P : JVal → Prop} {fs : List V} {gs : List (JVal → Bool)} (h : ListAgree P fs gs) (main : Res)
    (L : Res × Res) (c : Bool) (hL : fs ≠ [] → L.1.ok = (main.ok && c) ∧ L.2.ok = true) :
    (if fs.isEmpty = true then (main, none) else (L.1, some L.2)).1.ok = (main.ok && (gs.isEmpty || c))
    ∧ okOpt (if fs.isEmpty = true then (main, none) else (L.1, some L.2)).2 = true := by
  cases h with
  | nil => simp
  | cons => simpa using hL (List.cons_ne_nil _ _)

section parts
variable {P : JVal → Prop} (cfg : Cfg) (ik : IKids) (sk : SKids) (path : String) (v : JVal) (hv : P v) (main : Res)
include hv

theorem anyOfPart_ok (hk : ListAgree P ik.anyOf sk.anyOf) (hko : ∀ f ∈ ik.anyOf, keepRelevant cfg (f path v) = {}) :
    (anyOfPart cfg ik path v main).1.ok = (main.ok && (sk.anyOf.isEmpty || sk.anyOf.any (· v)))
    ∧ okOpt (anyOfPart cfg ik path v main).2 = true :=
  guarded_ok hk main _ _ fun _ => anyOfLoop_ok cfg hk path v hv hko none main {} rfl

theorem oneOfPart_ok (hk : ListAgree P ik.oneOf sk.oneOf) (hko : ∀ f ∈ ik.oneOf, keepRelevant cfg (f path v) = {}) :
    (oneOfPart cfg ik path v main).1.ok = (main.ok && (sk.oneOf.isEmpty || countTrue sk.oneOf v == 1))
    ∧ okOpt (oneOfPart cfg ik path v main).2 = true :=
  guarded_ok hk main _ _ fun _ =>
    Nat.zero_add (countTrue sk.oneOf v) ▸ oneOfLoop_ok cfg hk path v hv hko none none 0 main {} rfl rfl

theorem allOfPart_ok (hk : ListAgree P ik.allOf sk.allOf) (hko : ∀ f ∈ ik.allOf, keepRelevant cfg (f path v) = {}) :
    (allOfPart cfg ik path v main).1.ok = (main.ok && sk.allOf.all (· v))
    ∧ okOpt (allOfPart cfg ik path v main).2 = true := by
  have e : (sk.allOf.isEmpty || sk.allOf.all (· v)) = sk.allOf.all (· v) := by cases sk.allOf <;> rfl
  exact e ▸ guarded_ok hk main _ _ fun hne =>
    allOfLoop_ok cfg hk path v hv hko _ 0 (List.length_pos_iff.mpr hne) main {} (fun _ => Nat.zero_add _) rfl

end parts

/-- what `depsLoop` checks at one member name: its schema dependency if there is one, else its property dependency -/
def depKeyOK (b : SBase) (sk : SKids) (kvs : List (String × JVal)) (v : JVal) (key : String) : Bool :=
  match alookup key sk.depSchemas with
  | some g => g v
  | none =>
    match alookup key b.depProps with
    | some ds => ds.all (fun d => ahas d kvs)
    | none => true

theorem depsLoop_ok {P : JVal → Prop} (b : SBase) (ik : IKids) (sk : SKids)
    (h : MapAgree P ik.depSchemas sk.depSchemas) (path : String) (v : JVal) (hv : P v)
    (kvs rest : List (String × JVal)) (main : Res) :
    (depsLoop b ik path v kvs rest main).ok = (main.ok && rest.all fun kv => depKeyOK b sk kvs v kv.1) := by
  induction rest generalizing main with
  | nil => simp only [depsLoop, List.all_nil, Bool.and_true]
  | cons kv rest ih =>
    obtain ⟨key, x⟩ := kv
    rw [depsLoop, List.all_cons, depKeyOK]
    rcases h.alookup key with ⟨h1, h2⟩ | ⟨f, g, h1, h2, hfg⟩ <;> simp only [h1, h2]
    · cases alookup key b.depProps with
      | none => simp only [ih, Bool.true_and]
      | some ds =>
        have e (d : String) : (if ahas d kvs = true then none else some (eDependency path d)).isNone = ahas d kvs := by
          cases ahas d kvs <;> rfl
        simp only [ih, ok_addErrors_map, e, Bool.and_assoc]
    · simp only [ih, ok_mergeOne, hfg.ok _ hv, Bool.and_assoc]

/-- iterating over the instance's members and looking each name up among the dependencies is
    the same as iterating over the dependencies and asking whether their key is present —
    provided a name has one dependency at most -/
theorem deps_equiv (b : SBase) (sk : SKids) (kvs : List (String × JVal)) (v : JVal)
    (hnd : (akeys sk.depSchemas ++ akeys b.depProps).Nodup) :
    kvs.all (fun kv => depKeyOK b sk kvs v kv.1) =
      (b.depProps.all (fun nd => !ahas nd.1 kvs || nd.2.all (fun d => ahas d kvs))
       && sk.depSchemas.all (fun nf => !ahas nf.1 kvs || nf.2 v)) := by
  obtain ⟨hnd1, hnd2, hdisj⟩ := List.nodup_append.mp hnd
  rw [← all_alookup_swap kvs hnd1 (· v), ← all_alookup_swap kvs hnd2 fun ds => ds.all (ahas · kvs), ← all_and_split]
  refine all_congr_mem fun kv _ => ?_
  unfold depKeyOK
  cases h1 : alookup kv.1 sk.depSchemas with
  | none => cases alookup kv.1 b.depProps <;> simp
  | some g =>
    have h2 : alookup kv.1 b.depProps = none :=
      alookup_eq_none_iff.mpr fun hin => hdisj _ (ahas_iff_mem_keys.mp (ahas_iff_mem.mpr ⟨g, alookup_mem h1⟩)) _ hin rfl
    simp [h2]

theorem depsPart_ok {P : JVal → Prop} (b : SBase) (ik : IKids) (sk : SKids)
    (h : MapAgree P ik.depSchemas sk.depSchemas) (path : String) (v : JVal) (hv : P v)
    (hnd : (akeys sk.depSchemas ++ akeys b.depProps).Nodup) (main : Res) :
    (depsPart b ik path v main).ok = (main.ok && depsOK b sk v) := by
  unfold depsPart depsOK
  cases v with
  | obj kvs =>
    simp only []
    split
    · rename_i he
      simp only [Bool.and_eq_true, List.isEmpty_iff] at he
      have hs : sk.depSchemas = [] := List.eq_nil_of_length_eq_zero (by rw [← All2.length_eq h, he.2]; rfl)
      simp only [he.1, hs, List.all_nil, Bool.and_self, Bool.and_true]
    · rw [depsLoop_ok b ik sk h path _ hv, deps_equiv b sk kvs _ hnd]
  | _ => simp only [Bool.and_true]

theorem notPart_ok {P : JVal → Prop} (ik : IKids) (sk : SKids) (h : OptAgree P ik.not sk.not)
    (path : String) (v : JVal) (hv : P v) (main : Res) :
    (notPart ik path v main).ok = (main.ok && notOK sk.not v) := by
  unfold notPart notOK
  rcases h.cases with ⟨hi, hs⟩ | ⟨f, g, hi, hs, hfg⟩ <;> simp only [hi, hs]
  · simp only [Bool.and_true]
  · rw [← hfg.ok path hv, ok_condErr]; rfl

/-- schema_props.go:101-151 vs. allOf/anyOf/oneOf/not/dependencies of draft 4 -/
theorem schemaProps_verdict {P : JVal → Prop} (cfg : Cfg)
    (b : SBase) (ik : IKids) (sk : SKids) (hk : KidsAgree P ik sk) (path : String) (v : JVal)
    (hko : ∀ f, (f ∈ ik.anyOf ∨ f ∈ ik.oneOf ∨ f ∈ ik.allOf) → keepRelevant cfg (f path v) = {})
    (hv : P v) (hnd : (akeys sk.depSchemas ++ akeys b.depProps).Nodup) :
    (schemaPropsValidate cfg b ik path v).ok = (compOK sk v && depsOK b sk v) := by
  obtain ⟨h1, k1⟩ := anyOfPart_ok cfg ik sk path v hv {} hk.anyOf fun f hf => hko f (.inl hf)
  obtain ⟨h2, k2⟩ := oneOfPart_ok cfg ik sk path v hv (anyOfPart cfg ik path v {}).1 hk.oneOf fun f hf =>
    hko f (.inr (.inl hf))
  obtain ⟨h3, k3⟩ := allOfPart_ok cfg ik sk path v hv (oneOfPart cfg ik path v (anyOfPart cfg ik path v {}).1).1 hk.allOf
    fun f hf => hko f (.inr (.inr hf))
  simp only [schemaPropsValidate, ok_merge, ok_inc, List.all_cons, List.all_nil, k1, k2, k3, h1, h2, h3, ok_default,
    depsPart_ok b ik sk hk.depSchemas path v hv hnd, notPart_ok ik sk hk.not path v hv, compOK, Bool.and_true, Bool.true_and]
  ac_rfl

end VM
