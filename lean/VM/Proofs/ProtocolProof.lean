/-
  C04 (d1) / C11 — every position of a validator tree is redeemed exactly as often as it is borrowed, for every slot script
  and panic point, when slots are released before the call (`run_bal`).
-/
import VM.Impl.Protocol
namespace VM.Protocol

mutual
theorem all_bal (x : Pos) : ∀ (p : Pos) (v : VT),
    cR x (redeemAll p v) = cB x (borrowAll p v) ∧ cB x (redeemAll p v) = 0 ∧ cR x (borrowAll p v) = 0
  | p, .mk kids _ => by
    have := kids_bal x p 0 kids
    simp only [redeemAll, borrowAll, cR_app, cB_app, cR_consR, cB_consB, cR_consB, cB_consR, cR_nil, cB_nil]
    omega
theorem kids_bal (x : Pos) : ∀ (p : Pos) (i : Nat) (ks : List (Act × VT)),
    cR x (redeemKids p i ks) = cB x (borrowKids p i ks) ∧ cB x (redeemKids p i ks) = 0
      ∧ cR x (borrowKids p i ks) = 0
  | _, _, [] => ⟨rfl, rfl, rfl⟩
  | p, i, (_, v) :: rest => by
    have := all_bal x (p ++ [i]) v
    have := kids_bal x p (i+1) rest
    simp only [redeemKids, borrowKids, cR_app, cB_app]
    omega
end

theorem cR_borrowKids (x : Pos) : ∀ (p : Pos) (i : Nat) (ks : List (Act × VT)), cR x (borrowKids p i ks) = 0 :=
  fun p i ks => (kids_bal x p i ks).2.2

mutual
theorem run_bal (x : Pos) : ∀ (p : Pos) (v : VT) (k : Option Nat),
    cR x (run true p v k).evs = cB x (borrowAll p v) + cB x (run true p v k).evs
  | p, .mk kids dyn, k => by
    have hk := runKids_bal x p 0 kids (tick k)
    have hd := runDyn_bal x p 1000 dyn (runKids true p 0 kids (tick k)).k
    have hr := kids_bal x p 0 kids
    unfold run
    split
    · simp only [borrowAll, cR_app, cB_app, cR_consR, cB_consB, cB_consR, cR_nil, cB_nil]
      omega
    · simp only [borrowAll]
      split <;> simp only [cR_app, cB_app, cR_consR, cB_consB, cB_consR, cR_nil, cB_nil] <;> omega
theorem runKids_bal (x : Pos) : ∀ (p : Pos) (i : Nat) (ks : List (Act × VT)) (k : Option Nat),
    cR x (runKids true p i ks k).evs + cR x (runKids true p i ks k).deferred
      = cB x (borrowKids p i ks) + cB x (runKids true p i ks k).evs ∧ cB x (runKids true p i ks k).deferred = 0
  | _, _, [], k => ⟨rfl, rfl⟩
  | p, i, (.unvisited, v) :: rest, k | p, i, (.notApplies, v) :: rest, k => by
    have ih := runKids_bal x p (i+1) rest k
    have h1 := all_bal x (p ++ [i]) v
    simp only [runKids, borrowKids, cR_app, cB_app]
    omega
  | p, i, (.call, v) :: rest, k => by
    have hc := run_bal x (p ++ [i]) v k
    have ih := runKids_bal x p (i+1) rest (run true (p ++ [i]) v k).k
    have h1 := kids_bal x p (i+1) rest
    simp only [runKids, borrowKids]
    split
    · simp only [cB_app, if_true, List.nil_append]
      omega
    · simp only [cR_app, cB_app]
      omega
theorem runDyn_bal (x : Pos) : ∀ (p : Pos) (j : Nat) (vs : List VT) (k : Option Nat),
    cR x (runDyn true p j vs k).evs = cB x (runDyn true p j vs k).evs
  | _, _, [], k => rfl
  | p, j, v :: rest, k => by
    have hc := run_bal x (p ++ [j]) v k
    have ih := runDyn_bal x p (j+1) rest (run true (p ++ [j]) v k).k
    have hb := all_bal x (p ++ [j]) v
    simp only [runDyn]
    split <;> simp only [cR_app, cB_app] <;> omega
end
end VM.Protocol
