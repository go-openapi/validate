/-
  The pipeline of `(*SpecValidator).Validate` (`runStages`, `specValidate`): its early returns only cut the sequence of merges
  short, so the outcome is the merge of an initial stretch of the stage list (`runStages_prefix`); errors, warnings, duplicates and
  the panic flag of the outcome are read off the closed forms of `mergeAll`.
-/
import VM.Impl.Pipeline
import VM.Proofs.ResultLemmas
namespace VM.Sw
open VM

/- `mergeAll` is the fold of `mergeOne`, so each field of its result is given by the fold lemmas; membership, absence of
   duplicates and "errors only grow" are then read off `addMsgs`. -/

theorem mergeAll_append (r : Res) (os os' : List Res) : mergeAll r (os ++ os') = mergeAll (mergeAll r os) os' :=
  List.foldl_append

theorem mergeAll_errors (r : Res) (os : List Res) :
    (mergeAll r os).errors = addMsgs r.errors ((os.flatMap (·.errors)).map some) :=
  foldl_addMsgs (fun _ _ => rfl) r os

theorem mergeAll_warnings (r : Res) (os : List Res) :
    (mergeAll r os).warnings = addMsgs r.warnings ((os.flatMap (·.warnings)).map some) :=
  foldl_addMsgs (fun _ _ => rfl) r os

theorem panicked_mergeAll (r : Res) (os : List Res) : (mergeAll r os).panicked = (r.panicked || os.any (·.panicked)) :=
  foldl_or (fun _ _ => rfl) r os

theorem mem_mergeAll_errors (r : Res) (os : List Res) (m : Msg) :
    m ∈ (mergeAll r os).errors ↔ m ∈ r.errors ∨ ∃ o ∈ os, m ∈ o.errors := by
  rw [mergeAll_errors, mem_addMsgs_some, List.mem_flatMap]

theorem mem_mergeAll_warnings (r : Res) (os : List Res) (m : Msg) :
    m ∈ (mergeAll r os).warnings ↔ m ∈ r.warnings ∨ ∃ o ∈ os, m ∈ o.warnings := by
  rw [mergeAll_warnings, mem_addMsgs_some, List.mem_flatMap]

theorem mergeAll_nodup {r : Res} (os : List Res) (he : r.errors.Nodup) (hw : r.warnings.Nodup) :
    (mergeAll r os).errors.Nodup ∧ (mergeAll r os).warnings.Nodup := by
  rw [mergeAll_errors, mergeAll_warnings]
  exact ⟨addMsgs_nodup he _, addMsgs_nodup hw _⟩

theorem errors_nil_of_mergeAll {r : Res} {os : List Res} (h : (mergeAll r os).errors = []) : r.errors = [] :=
  List.prefix_nil.mp (h ▸ mergeAll_errors r os ▸ addMsgs_prefix _ _)

/-- the stage results in the order `Validate` merges them -/
def Stages.all (s : Stages) (cont : Bool) : List Res := s.schemaPass :: s.refsValid :: (s.middle cont ++ s.late)

theorem runStages_true (s : Stages) : runStages true s = mergeAll {} (s.all true) := (mergeAll_append _ _ _).symm

/-- The early returns only cut the sequence of merges short: what `Validate` ends with is the merge of an initial stretch of
    the stages, the schema pass at least. -/
theorem runStages_prefix (cont : Bool) (s : Stages) :
    ∃ l, s.schemaPass ∈ l ∧ l <+: s.all cont ∧ runStages cont s = mergeAll {} l :=
  let P (r : Res) : Prop := ∃ l, s.schemaPass ∈ l ∧ l <+: s.all cont ∧ r = mergeAll {} l
  of_ite P ⟨[s.schemaPass], .head _, ⟨_, rfl⟩, rfl⟩
    (of_ite P ⟨[s.schemaPass, s.refsValid], .head _, ⟨_, rfl⟩, rfl⟩
      (of_ite P ⟨s.schemaPass :: s.refsValid :: s.middle cont, .head _, ⟨s.late, rfl⟩, rfl⟩
        ⟨s.all cont, .head _, List.prefix_refl _, (mergeAll_append _ _ _).symm⟩))

theorem runStages_nodup (cont : Bool) (s : Stages) :
    (runStages cont s).errors.Nodup ∧ (runStages cont s).warnings.Nodup := by
  obtain ⟨l, -, -, e⟩ := runStages_prefix cont s
  rw [e]; exact mergeAll_nodup l List.nodup_nil List.nodup_nil

theorem runStages_panicked {cont : Bool} {s : Stages} (h : ∀ o ∈ s.all cont, o.panicked = false) :
    (runStages cont s).panicked = false := by
  obtain ⟨l, -, hl, e⟩ := runStages_prefix cont s
  rw [e]
  exact (panicked_mergeAll {} l).trans (List.any_eq_false.mpr fun o ho => ne_true_of_eq_false (h o (hl.subset ho)))

theorem mem_mergeAll_nil_errors (os : List Res) (m : Msg) : m ∈ (mergeAll {} os).errors ↔ ∃ o ∈ os, m ∈ o.errors :=
  (mem_mergeAll_errors {} os m).trans (or_iff_right (List.not_mem_nil (a := m)))

theorem mem_runStages_errors {cont : Bool} {s : Stages} {m : Msg} (h : m ∈ (runStages cont s).errors) :
    ∃ o ∈ s.all cont, m ∈ o.errors := by
  obtain ⟨l, -, hl, e⟩ := runStages_prefix cont s
  obtain ⟨o, ho, hm⟩ := (mem_mergeAll_nil_errors l m).mp (e ▸ h)
  exact ⟨o, hl.subset ho, hm⟩

theorem mem_runStages_true_errors (s : Stages) (m : Msg) :
    m ∈ (runStages true s).errors ↔ ∃ o ∈ s.all true, m ∈ o.errors := by
  rw [runStages_true, mem_mergeAll_nil_errors]

theorem runStages_true_errors_nil (s : Stages) : (runStages true s).errors = [] ↔ ∀ o ∈ s.all true, o.errors = [] := by
  simp only [List.eq_nil_iff_forall_not_mem, mem_runStages_true_errors, not_exists, not_and]
  exact ⟨fun h o ho m => h m o ho, fun h m o ho => h o ho m⟩

theorem schemaPass_errors_subset (cont : Bool) (s : Stages) {m : Msg} (h : m ∈ s.schemaPass.errors) :
    m ∈ (runStages cont s).errors := by
  obtain ⟨l, hl, -, e⟩ := runStages_prefix cont s
  exact e ▸ (mem_mergeAll_nil_errors l m).mpr ⟨_, hl, h⟩

/-- The deferred bookkeeping of `Validate` leaves the main result as `runStages` made it, and returns its warnings, in the
    same order, as the errors of an otherwise empty result. -/
theorem specValidate_eq (cont : Bool) (s : Stages) :
    specValidate cont s = (runStages cont s, { errors := (runStages cont s).warnings }) := by
  have h (r : Res) : r.mergeAsWarningsOne {} = r := by
    cases r; simp only [Res.mergeAsWarningsOne, List.map_nil, addMsgs, Int.add_zero, Bool.or_false]
  rw [specValidate, h, Res.addErrors]
  exact congrArg (fun l => (runStages cont s, ({ errors := l } : Res))) (addMsgs_append_of_nodup _ [] (runStages_nodup cont s).2)

end VM.Sw
