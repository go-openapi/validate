/-
  Association lists (`alookup`, `ahas`, `akeys`): lookup against membership, and the presence test through the keys.
-/
import VM.Json
import VM.Proofs.Lists
namespace VM

theorem alookup_cons {α : Type} (k k' : String) (a : α) (l : List (String × α)) :
    alookup k ((k', a) :: l) = if k = k' then some a else alookup k l := rfl

theorem alookup_mem {α : Type} {k : String} {l : List (String × α)} {a : α} (h : alookup k l = some a) : (k, a) ∈ l := by
  induction l with
  | nil => cases h
  | cons p ps ih =>
    obtain ⟨k', a'⟩ := p
    rw [alookup_cons] at h
    split at h
    · cases h; subst k; exact List.mem_cons_self
    · exact List.mem_cons_of_mem _ (ih h)

theorem alookup_of_mem_nodup {α : Type} {l : List (String × α)} (hn : (akeys l).Nodup) {k : String} {a : α}
    (h : (k, a) ∈ l) : alookup k l = some a := by
  induction l with
  | nil => cases h
  | cons p ps ih =>
    obtain ⟨k', a'⟩ := p
    rw [akeys, List.map_cons, List.nodup_cons] at hn
    rw [alookup_cons]
    rcases List.mem_cons.mp h with e | hm
    · cases e; rw [if_pos rfl]
    · rw [if_neg fun e => hn.1 (List.mem_map.mpr ⟨(k, a), hm, e⟩)]
      exact ih hn.2 hm

theorem ahas_eq_any {α : Type} (k : String) (l : List (String × α)) : ahas k l = l.any (·.1 == k) := by
  induction l with
  | nil => rfl
  | cons p ps ih =>
    obtain ⟨k', a⟩ := p
    unfold ahas at ih ⊢
    rw [alookup_cons, List.any_cons, ← ih]
    by_cases e : k = k'
    · simp [e]
    · simp [e, Ne.symm e]

theorem ahas_iff_mem_keys {α : Type} {k : String} {l : List (String × α)} : ahas k l = true ↔ k ∈ akeys l := by
  simp only [ahas_eq_any, List.any_eq_true, akeys, List.mem_map, beq_iff_eq]

theorem ahas_congr {α β : Type} {l : List (String × α)} {l' : List (String × β)} (h : akeys l = akeys l') (k : String) :
    ahas k l = ahas k l' := by
  rw [Bool.eq_iff_iff, ahas_iff_mem_keys, ahas_iff_mem_keys, h]

theorem ahas_iff_mem {α : Type} {k : String} {l : List (String × α)} : ahas k l = true ↔ ∃ a, (k, a) ∈ l := by
  rw [ahas_iff_mem_keys, akeys, List.mem_map]
  exact ⟨fun ⟨p, hp, e⟩ => ⟨p.2, e ▸ hp⟩, fun ⟨a, ha⟩ => ⟨(k, a), ha, rfl⟩⟩

theorem alookup_eq_none_iff {α : Type} {k : String} {l : List (String × α)} : alookup k l = none ↔ k ∉ akeys l := by
  rw [← ahas_iff_mem_keys, ahas, Option.isSome_iff_ne_none, Classical.not_not]

/-- asking each member of `kvs` what the table holds for its name, or each entry of the table whether its name is a member -/
theorem all_alookup_swap {α β : Type} (kvs : List (String × α)) {T : List (String × β)} (hnd : (akeys T).Nodup)
    (q : β → Bool) :
    kvs.all (fun kv => (alookup kv.1 T).all q) = T.all fun nt => !ahas nt.1 kvs || q nt.2 := by
  rw [Bool.eq_iff_iff, List.all_eq_true, List.all_eq_true]
  constructor
  · rintro h ⟨n, t⟩ hmem
    cases hp : ahas n kvs
    · rfl
    · obtain ⟨x, hx⟩ := ahas_iff_mem.mp hp
      have := h (n, x) hx
      rwa [alookup_of_mem_nodup hnd hmem] at this
  · intro h kv hkv
    cases h1 : alookup kv.1 T with
    | none => rfl
    | some t =>
      have := h _ (alookup_mem h1)
      rwa [ahas_iff_mem.mpr ⟨kv.2, hkv⟩] at this

namespace All2
variable {α β : Type} {R : α → β → Prop} {as : List (String × α)} {bs : List (String × β)}
  (h : All2 (fun a b => a.1 = b.1 ∧ R a.2 b.2) as bs)
include h

theorem akeys_eq : akeys as = akeys bs := by
  induction h with
  | nil => rfl
  | cons hab _ ih => simp only [akeys, List.map_cons, hab.1] at ih ⊢; rw [ih]

theorem alookup (k : String) :
    (VM.alookup k as = none ∧ VM.alookup k bs = none) ∨
      ∃ a b, VM.alookup k as = some a ∧ VM.alookup k bs = some b ∧ R a b := by
  induction h with
  | nil => exact .inl ⟨rfl, rfl⟩
  | @cons a b as bs hab _ ih =>
    obtain ⟨ka, a⟩ := a; obtain ⟨kb, b⟩ := b
    obtain rfl : ka = kb := hab.1
    rw [alookup_cons, alookup_cons]
    split
    · exact .inr ⟨a, b, rfl, rfl, hab.2⟩
    · exact ih

end All2

end VM
