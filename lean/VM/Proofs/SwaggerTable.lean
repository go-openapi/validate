/-
  The regenerated Swagger 2.0 schema (VM/Generated/SwaggerSchema.lean) lies in the vocabulary of the C01 theorem: one
  kernel evaluation, which needs the vocabulary and the table and none of the proofs, so it is checked beside them.
-/
import VM.Spec.Vocabulary
import VM.Generated.SwaggerSchema
namespace VM.C02
open VM Impl Generated

def known : String → Bool := fun n => (swaggerDefs n).isSome

/-- the code as it is, minus the one open deviation whose no-trigger condition is a condition on
    the *schema* that the Swagger schema does not meet (`format: uri|email` on strings) -/
def asIsC02 : Cfg := { Cfg.asIs with formatBypassesType := false }

/-- Every `$ref` of the root and of every definition resolves inside the table, and every node meets the conditions of
    every switch that `asIsC02` leaves open; the other facts about the schema follow (`wf_mono`, `wf_refsKnown`).
    Root and table in one statement, and `+kernel`: most of the work is UTF-8-encoding the string literals of the 230
    reference lookups, which the kernel does once per literal and evaluation, and which plain `decide` would have the
    elaborator do first. -/
theorem swagger_wf_asIs :
    wf asIsC02 known swaggerRoot = true ∧ swaggerTable.all (fun p => wf asIsC02 known p.2) = true := by decide +kernel

end VM.C02
