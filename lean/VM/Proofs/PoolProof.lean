/-
  C04 — recycling is invisible: the simulation `Sim` between the pool semantics and the fresh semantics is kept by every
  instruction of a disciplined client (`Sim.borrow`, `Sim.write`, `Sim.redeem`), whichever pooled object a borrow picks.
-/
import VM.Impl.Pool
namespace VM.Pool

variable {H : Type} [DecidableEq H]

theorem takeAt_perm : ∀ {l : List Nat} {i p rest}, takeAt l i = some (p, rest) → l.Perm (p :: rest)
  | x :: xs, 0, _, _, h => by cases h; exact .refl _
  | x :: xs, i+1, p, rest, h => by
    simp only [takeAt, Option.map_eq_some_iff] at h
    obtain ⟨⟨y, ys⟩, hy, heq⟩ := h
    cases heq
    exact ((takeAt_perm hy).cons x).trans (.swap ..)

namespace Sim
variable {L : Live H} {σ : PState H} {τ : H → Obj} {h : H} {w : Field → Bool}

/-- A borrow may hand out any object `p` that no live handle has, whether it comes from the pool
    (`rest` is what remains of it) or is newly allocated. -/
theorem borrow (hs : Sim L σ τ) (h : H) {p n : Nat} {rest : List Nat}
    (hp : ∀ h' w, L h' = some w → σ.phys h' ≠ p) (hsub : ∀ q ∈ rest, q ∈ σ.free)
    (hnd : rest.Nodup) (hpr : p ∉ rest) (hpn : p < n) (hn : σ.next ≤ n) :
    Sim (upd L h (some fun _ => false)) ⟨upd σ.phys h p, σ.mem, rest, n⟩ (upd τ h fun _ => 0) where
  agree h' w hw f hf := by
    rcases upd_eq hw with ⟨rfl, e⟩ | ⟨ne, hw⟩
    · cases e; cases hf
    · simpa only [upd_other _ _ _ _ ne] using hs.agree h' w hw f hf
  notfree h' w hw := by
    rcases upd_eq hw with ⟨rfl, -⟩ | ⟨ne, hw⟩
    · simpa only [upd_same] using hpr
    · simpa only [upd_other _ _ _ _ ne] using fun hin => hs.notfree h' w hw (hsub _ hin)
  inj h1 h2 w1 w2 hw1 hw2 e := by
    rcases upd_eq hw1 with ⟨rfl, -⟩ | ⟨n1, l1⟩ <;> rcases upd_eq hw2 with ⟨rfl, -⟩ | ⟨n2, l2⟩
    · rfl
    · simp only [upd_same, upd_other _ _ _ _ n2] at e; exact absurd e.symm (hp h2 w2 l2)
    · simp only [upd_same, upd_other _ _ _ _ n1] at e; exact absurd e (hp h1 w1 l1)
    · simp only [upd_other _ _ _ _ n1, upd_other _ _ _ _ n2] at e; exact hs.inj _ _ _ _ l1 l2 e
  nodup := hnd
  bound := ⟨fun q hq => Nat.lt_of_lt_of_le (hs.bound.1 q (hsub q hq)) hn, fun h' w hw => by
    rcases upd_eq hw with ⟨rfl, -⟩ | ⟨ne, hw⟩
    · simpa only [upd_same] using hpn
    · simpa only [upd_other _ _ _ _ ne] using Nat.lt_of_lt_of_le (hs.bound.2 h' w hw) hn⟩

theorem live_of_write (hw : L h = some w) {v h' w'} (e : upd L h (some v) h' = some w') :
    ∃ u, L h' = some u := by
  rcases upd_eq e with ⟨rfl, -⟩ | ⟨-, e⟩
  · exact ⟨w, hw⟩
  · exact ⟨w', e⟩

theorem write (hs : Sim L σ τ) (hw : L h = some w) (f : Field) (v : Val) :
    Sim (upd L h (some (upd w f true)))
      { σ with mem := upd σ.mem (σ.phys h) (upd (σ.mem (σ.phys h)) f v) } (upd τ h (upd (τ h) f v)) where
  agree h' w' hw' f' hf' := by
    rcases upd_eq hw' with ⟨rfl, e⟩ | ⟨ne, hw'⟩
    · cases e
      simp only [upd_same]
      rcases upd_eq hf' with ⟨rfl, -⟩ | ⟨ef, hf'⟩
      · simp only [upd_same]
      · simpa only [upd_other _ _ _ _ ef] using hs.agree h' w hw f' hf'
    · have : σ.phys h' ≠ σ.phys h := fun hp => ne (hs.inj _ _ _ _ hw' hw hp)
      simpa only [upd_other _ _ _ _ ne, upd_other _ _ _ _ this] using hs.agree h' w' hw' f' hf'
  notfree h' _ hw' := let ⟨u, hu⟩ := live_of_write hw hw'; hs.notfree h' u hu
  inj h1 h2 _ _ hw1 hw2 :=
    let ⟨_, hu1⟩ := live_of_write hw hw1; let ⟨_, hu2⟩ := live_of_write hw hw2; hs.inj _ _ _ _ hu1 hu2
  nodup := hs.nodup
  bound := ⟨hs.bound.1, fun h' _ hw' => let ⟨u, hu⟩ := live_of_write hw hw'; hs.bound.2 h' u hu⟩

theorem redeem (hs : Sim L σ τ) (hw : L h = some w) :
    Sim (upd L h none) { σ with free := σ.phys h :: σ.free } τ := by
  have live : ∀ {h' w'}, upd L h none h' = some w' → h' ≠ h ∧ L h' = some w' := fun e => by
    rcases upd_eq e with ⟨-, e⟩ | e
    · cases e
    · exact e
  exact {
    agree := fun h' w' hw' => hs.agree h' w' (live hw').2
    notfree := fun h' w' hw' =>
      have ⟨ne, hl⟩ := live hw'
      List.not_mem_cons_of_ne_of_not_mem (fun hp => ne (hs.inj _ _ _ _ hl hw hp)) (hs.notfree h' w' hl)
    inj := fun h1 h2 w1 w2 hw1 hw2 => hs.inj _ _ _ _ (live hw1).2 (live hw2).2
    nodup := List.nodup_cons.2 ⟨hs.notfree h w hw, hs.nodup⟩
    bound := ⟨fun q hq => by
      rcases List.mem_cons.1 hq with rfl | hq
      · exact hs.bound.2 h w hw
      · exact hs.bound.1 q hq, fun h' w' hw' => hs.bound.2 h' w' (live hw').2⟩ }

end Sim

theorem recycling_invisible {R} : ∀ (p : Prog H R) (ch : List (Option Nat)) (L : Live H) (σ : PState H) (τ : H → Obj),
    Disciplined p L → Sim L σ τ → runPool p ch σ = runFresh p τ
  | .ret r, _, _, _, _, _, _ => rfl
  | .borrow h k, ch, L, σ, τ, hd, hs => by
    simp only [runPool, runFresh]
    split
    next p rest heq =>
      obtain ⟨i, -, hi⟩ := Option.bind_eq_some_iff.1 heq
      have sp := takeAt_perm hi
      have nd := List.nodup_cons.1 (sp.nodup_iff.1 hs.nodup)
      have hp : p ∈ σ.free := sp.mem_iff.2 (List.mem_cons_self ..)
      exact recycling_invisible k _ _ _ _ hd.2 <|
        hs.borrow h (fun h' w hw e => hs.notfree h' w hw (e ▸ hp))
          (fun q hq => sp.mem_iff.2 (List.mem_cons_of_mem _ hq)) nd.2 nd.1 (hs.bound.1 p hp) (Nat.le_refl _)
    next =>
      exact recycling_invisible k _ _ _ _ hd.2 <|
        hs.borrow h (fun h' w hw e => Nat.lt_irrefl _ (e ▸ hs.bound.2 h' w hw)) (fun _ hq => hq) hs.nodup
          (fun hin => Nat.lt_irrefl _ (hs.bound.1 _ hin)) (Nat.lt_succ_self _) (Nat.le_succ _)
  | .write h f v k, ch, L, σ, τ, ⟨w, hw, hk⟩, hs => recycling_invisible k _ _ _ _ hk (hs.write hw f v)
  | .read h f k, ch, L, σ, τ, ⟨w, hw, hf, hk⟩, hs => by
    simp only [runPool, runFresh]
    rw [hs.agree h w hw f hf]
    exact recycling_invisible (k (τ h f)) ch L σ τ (hk _) hs
  | .redeem h k, ch, L, σ, τ, ⟨⟨w, hw⟩, hk⟩, hs => recycling_invisible k _ _ _ _ hk (hs.redeem hw)

end VM.Pool
