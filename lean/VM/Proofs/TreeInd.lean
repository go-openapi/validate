/-
  The validator tree, seen through `Schema.kids`: the node of `s` is `nodeValidate` over the validators of the kids
  (`validate_eq`), so a property of validators that `nodeValidate` passes from the children to the node holds of the
  whole tree (`validate_all`). Also here: the two "every reference is known" predicates on schemas, `refsKnown` (what the
  validator tree follows) and `allRefsKnown` (what the walkers of the default and example validators visit).
-/
import VM.Impl.Schema
import VM.Proofs.SchemaInd
import VM.Proofs.Lists
namespace VM
open Impl

section
variable (cfg : Cfg) (opts : Opts) (O : Oracles) (r : String → V)

theorem validateL_eq_map (l : List Schema) : validateL cfg opts O r l = l.map (validate cfg opts O r) :=
  eq_map_of_rec rfl (fun _ _ => rfl) l

theorem validateM_eq_map (l : List (String × Schema)) :
    validateM cfg opts O r l = l.map fun p => (p.1, validate cfg opts O r p.2) :=
  eq_map_of_rec rfl (fun _ _ => rfl) l

def ikidsOf : Schema → IKids
  | .mk _ itemsS itemsT addItemsS props patProps addPropsS depSchemas allOf anyOf oneOf nt =>
    { itemsS := itemsS.map (validate cfg opts O r)
      itemsT := validateL cfg opts O r itemsT
      addItemsS := addItemsS.map (validate cfg opts O r)
      props := validateM cfg opts O r props
      patProps := validateM cfg opts O r patProps
      addPropsS := addPropsS.map (validate cfg opts O r)
      depSchemas := validateM cfg opts O r depSchemas
      allOf := validateL cfg opts O r allOf
      anyOf := validateL cfg opts O r anyOf
      oneOf := validateL cfg opts O r oneOf
      not := nt.map (validate cfg opts O r) }

theorem validate_eq (s : Schema) (p : String) (v : JVal) :
    validate cfg opts O r s p v =
      if s.base.ref != "" then r s.base.ref p v
      else nodeValidate cfg opts O s.base (defaultsOf s.props) (ikidsOf cfg opts O r s) p v := by
  obtain ⟨_, itemsS, _, addItemsS, _, _, addPropsS, _, _, _, _, nt⟩ := s
  cases itemsS <;> cases addItemsS <;> cases addPropsS <;> cases nt <;> rfl

end

structure Impl.IKids.All (P : V → Prop) (k : IKids) : Prop where
  itemsS : ∀ f, k.itemsS = some f → P f
  itemsT : ∀ f ∈ k.itemsT, P f
  addItemsS : ∀ f, k.addItemsS = some f → P f
  props : ∀ nf ∈ k.props, P nf.2
  patProps : ∀ nf ∈ k.patProps, P nf.2
  addPropsS : ∀ f, k.addPropsS = some f → P f
  depSchemas : ∀ nf ∈ k.depSchemas, P nf.2
  allOf : ∀ f ∈ k.allOf, P f
  anyOf : ∀ f ∈ k.anyOf, P f
  oneOf : ∀ f ∈ k.oneOf, P f
  not : ∀ f, k.not = some f → P f

section
variable (cfg : Cfg) (opts : Opts) (O : Oracles) (r : String → V)

theorem forall_mem_validateL {P : V → Prop} {l : List Schema} (h : ∀ t ∈ l, P (validate cfg opts O r t)) :
    ∀ f ∈ validateL cfg opts O r l, P f := by
  rw [validateL_eq_map]; exact List.forall_mem_map.mpr h

theorem forall_mem_validateM {P : V → Prop} {l : List (String × Schema)} (h : ∀ p ∈ l, P (validate cfg opts O r p.2)) :
    ∀ nf ∈ validateM cfg opts O r l, P nf.2 := by
  rw [validateM_eq_map]; exact List.forall_mem_map.mpr h

theorem ikidsOf_all {P : V → Prop} (s : Schema) (h : ∀ t ∈ s.kids, P (validate cfg opts O r t)) :
    (ikidsOf cfg opts O r s).All P := by
  obtain ⟨_, itemsS, itemsT, addItemsS, props, patProps, addPropsS, depSchemas, allOf, anyOf, oneOf, nt⟩ := s
  have hL {l} := forall_mem_validateL cfg opts O r (P := P) (l := l)
  have hM {l} := forall_mem_validateM cfg opts O r (P := P) (l := l)
  have hO : ∀ o : Option Schema, (∀ t, o = some t → P (validate cfg opts O r t)) →
      ∀ f, o.map (validate cfg opts O r) = some f → P f := by
    rintro _ ho f hf
    obtain ⟨t, rfl, rfl⟩ := Option.map_eq_some_iff.mp hf
    exact ho t rfl
  obtain ⟨h1, h2, h3, h4, h5, h6, h7, h8, h9, h10, h11⟩ := Schema.forall_mem_kids.mp h
  exact ⟨hO _ h1, hL h2, hO _ h3, hM h4, hM h5, hO _ h6, hM h7, hL h8, hL h9, hL h10, hO _ h11⟩

end

mutual
/-- every `$ref` the validator tree follows is one the resolver knows (the siblings of a `$ref` are ignored, as
    `validate` ignores them) -/
def refsKnown (known : String → Bool) : Schema → Bool
  | .mk b itemsS itemsT addItemsS props patProps addPropsS depSchemas allOf anyOf oneOf nt =>
    if b.ref != "" then known b.ref else
    (match itemsS with | some s => refsKnown known s | none => true)
    && refsKnownL known itemsT
    && (match addItemsS with | some s => refsKnown known s | none => true)
    && refsKnownM known props && refsKnownM known patProps
    && (match addPropsS with | some s => refsKnown known s | none => true)
    && refsKnownM known depSchemas
    && refsKnownL known allOf && refsKnownL known anyOf && refsKnownL known oneOf
    && (match nt with | some s => refsKnown known s | none => true)
termination_by structural s => s
def refsKnownL (known : String → Bool) : List Schema → Bool
  | [] => true
  | s :: ss => refsKnown known s && refsKnownL known ss
termination_by structural l => l
def refsKnownM (known : String → Bool) : List (String × Schema) → Bool
  | [] => true
  | (_, s) :: ps => refsKnown known s && refsKnownM known ps
termination_by structural l => l
end

theorem refsKnownL_eq_all (known : String → Bool) (l : List Schema) : refsKnownL known l = l.all (refsKnown known) :=
  eq_all_of_rec rfl (fun _ _ => rfl) l

theorem refsKnownM_eq_all (known : String → Bool) (l : List (String × Schema)) :
    refsKnownM known l = (l.map (·.2)).all (refsKnown known) :=
  (eq_all_of_rec (f := fun _ => _) rfl (fun _ _ => rfl) l).trans List.all_map.symm

theorem refsKnown_eq (known : String → Bool) (s : Schema) :
    refsKnown known s = if s.base.ref != "" then known s.base.ref else s.kids.all (refsKnown known) := by
  obtain ⟨b, itemsS, itemsT, addItemsS, props, patProps, addPropsS, depSchemas, allOf, anyOf, oneOf, nt⟩ := s
  have e : refsKnown known (.mk b itemsS itemsT addItemsS props patProps addPropsS depSchemas allOf anyOf oneOf nt) =
      if b.ref != "" then known b.ref else
        itemsS.all (refsKnown known) && refsKnownL known itemsT && addItemsS.all (refsKnown known)
        && refsKnownM known props && refsKnownM known patProps && addPropsS.all (refsKnown known)
        && refsKnownM known depSchemas && refsKnownL known allOf && refsKnownL known anyOf && refsKnownL known oneOf
        && nt.all (refsKnown known) := by
    cases itemsS <;> cases addItemsS <;> cases addPropsS <;> cases nt <;> rfl
  simp only [e, Schema.kids, Schema.base, List.all_append, refsKnownL_eq_all, refsKnownM_eq_all, all_toList]

theorem refsKnown_true (s : Schema) : refsKnown (fun _ => true) s = true := by
  induction s using Schema.induct with
  | step s ih =>
    rw [refsKnown_eq]
    split
    · rfl
    · exact List.all_eq_true.mpr ih

mutual
/-- every `$ref` anywhere in the schema is known — including in the siblings of a `$ref`, which the validator built for
    the node ignores but the walkers of the default and example validators visit -/
def allRefsKnown (known : String → Bool) : Schema → Bool
  | .mk b itemsS itemsT addItemsS props patProps addPropsS depSchemas allOf anyOf oneOf nt =>
    (b.ref == "" || known b.ref)
    && (match itemsS with | some s => allRefsKnown known s | none => true)
    && allRefsKnownL known itemsT
    && (match addItemsS with | some s => allRefsKnown known s | none => true)
    && allRefsKnownM known props && allRefsKnownM known patProps
    && (match addPropsS with | some s => allRefsKnown known s | none => true)
    && allRefsKnownM known depSchemas
    && allRefsKnownL known allOf && allRefsKnownL known anyOf && allRefsKnownL known oneOf
    && (match nt with | some s => allRefsKnown known s | none => true)
termination_by structural s => s
def allRefsKnownL (known : String → Bool) : List Schema → Bool
  | [] => true
  | s :: ss => allRefsKnown known s && allRefsKnownL known ss
termination_by structural l => l
def allRefsKnownM (known : String → Bool) : List (String × Schema) → Bool
  | [] => true
  | (_, s) :: ps => allRefsKnown known s && allRefsKnownM known ps
termination_by structural l => l
end

theorem allRefsKnownL_eq_all (known : String → Bool) (l : List Schema) :
    allRefsKnownL known l = l.all (allRefsKnown known) :=
  eq_all_of_rec rfl (fun _ _ => rfl) l

theorem allRefsKnownM_eq_all (known : String → Bool) (l : List (String × Schema)) :
    allRefsKnownM known l = (l.map (·.2)).all (allRefsKnown known) :=
  (eq_all_of_rec (f := fun _ => _) rfl (fun _ _ => rfl) l).trans List.all_map.symm

theorem allRefsKnown_eq (known : String → Bool) (s : Schema) :
    allRefsKnown known s = ((s.base.ref == "" || known s.base.ref) && s.kids.all (allRefsKnown known)) := by
  obtain ⟨b, itemsS, itemsT, addItemsS, props, patProps, addPropsS, depSchemas, allOf, anyOf, oneOf, nt⟩ := s
  have e : allRefsKnown known (.mk b itemsS itemsT addItemsS props patProps addPropsS depSchemas allOf anyOf oneOf nt) =
      ((b.ref == "" || known b.ref)
        && itemsS.all (allRefsKnown known) && allRefsKnownL known itemsT && addItemsS.all (allRefsKnown known)
        && allRefsKnownM known props && allRefsKnownM known patProps && addPropsS.all (allRefsKnown known)
        && allRefsKnownM known depSchemas && allRefsKnownL known allOf && allRefsKnownL known anyOf
        && allRefsKnownL known oneOf && nt.all (allRefsKnown known)) := by
    cases itemsS <;> cases addItemsS <;> cases addPropsS <;> cases nt <;> rfl
  simp only [e, Schema.kids, Schema.base, List.all_append, allRefsKnownL_eq_all, allRefsKnownM_eq_all, all_toList,
    Bool.and_assoc]

theorem allRefsKnown_kids {known : String → Bool} {s : Schema} (h : allRefsKnown known s = true) :
    ∀ t ∈ s.kids, allRefsKnown known t = true := by
  rw [allRefsKnown_eq, Bool.and_eq_true, List.all_eq_true] at h
  exact h.2

theorem allRefsKnown_refsKnown (known : String → Bool) (s : Schema) (h : allRefsKnown known s = true) :
    refsKnown known s = true := by
  induction s using Schema.induct with
  | step s ih =>
    rw [refsKnown_eq]
    split
    · rename_i hb
      rw [allRefsKnown_eq, Bool.and_eq_true, Bool.or_eq_true] at h
      exact h.1.resolve_left fun e => bne_iff_ne.mp hb (eq_of_beq e)
    · exact List.all_eq_true.mpr fun t ht => ih t ht (allRefsKnown_kids h t ht)

theorem allRefsKnownL_refsKnownL (known : String → Bool) (l : List Schema) (h : allRefsKnownL known l = true) :
    refsKnownL known l = true := by
  rw [allRefsKnownL_eq_all, List.all_eq_true] at h
  rw [refsKnownL_eq_all, List.all_eq_true]
  exact fun s hs => allRefsKnown_refsKnown known s (h s hs)

theorem allRefsKnownM_refsKnownM (known : String → Bool) (l : List (String × Schema)) (h : allRefsKnownM known l = true) :
    refsKnownM known l = true := by
  rw [allRefsKnownM_eq_all, List.all_eq_true] at h
  rw [refsKnownM_eq_all, List.all_eq_true]
  exact fun s hs => allRefsKnown_refsKnown known s (h s hs)

section
variable (cfg : Cfg) (opts : Opts) (O : Oracles) (r : String → V)

theorem validate_all {P : V → Prop} (known : String → Bool) (hr : ∀ name, known name = true → P (r name))
    (node : ∀ b defaults k, k.All P → P (nodeValidate cfg opts O b defaults k)) :
    ∀ s, refsKnown known s = true → P (validate cfg opts O r s) := by
  intro s
  induction s using Schema.induct with
  | step s ih =>
    intro hs
    rw [refsKnown_eq] at hs
    -- `validate_eq` is stated of the applied form
    have e : validate cfg opts O r s = fun p v => validate cfg opts O r s p v := rfl
    rw [e]; simp only [validate_eq]
    split
    · rename_i hb; rw [if_pos hb] at hs; exact hr _ hs
    · rename_i hb; rw [if_neg hb, List.all_eq_true] at hs
      exact node _ _ _ (ikidsOf_all cfg opts O r s fun t ht => ih t ht (hs t ht))

end
end VM
