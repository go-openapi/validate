/-
  The result algebra (result.go): `addMsgs` is the ordered-set union (`addMsgs_eq_ordUnion`), the variadic merges are folds over
  their non-nil operands, and what a fold does to a field follows from what its step does (`foldl_addMsgs`, `foldl_frame`,
  `foldl_mc`, `foldl_and`, `foldl_or`).
-/
import VM.Spec.Result
import VM.Proofs.Lists
namespace VM
open Spec

theorem dedup_nodup (l : List Msg) : (dedup l).Nodup := by
  induction l with
  | nil => simp [dedup]
  | cons m ms ih =>
    simp only [dedup, List.nodup_cons]
    refine ⟨?_, ih.filter _⟩
    simp

theorem mem_dedup (l : List Msg) (x : Msg) : x ∈ dedup l ↔ x ∈ l := by
  induction l with
  | nil => simp [dedup]
  | cons m ms ih =>
    simp only [dedup, List.mem_cons, List.mem_filter, ih]
    by_cases h : x = m <;> simp [h]

/-- `AddErrors` computes the ordered-set union (nil entries dropped). -/
theorem addMsgs_eq_ordUnion (cur : List Msg) (es : List (Option Msg)) :
    addMsgs cur es = ordUnion cur (es.filterMap id) := by
  induction es generalizing cur with
  | nil => simp only [addMsgs, ordUnion, List.filterMap_nil, dedup, List.filter_nil, List.append_nil]
  | cons e es ih =>
    cases e with
    | none => simpa only [addMsgs, id_eq, List.filterMap_cons_none] using ih cur
    | some e =>
      simp only [addMsgs, List.filterMap_cons, id]
      by_cases h : cur.contains e = true
      · rw [if_pos h, ih cur]
        simp only [ordUnion, dedup]
        congr 1
        rw [List.filter_cons]
        simp only [h, Bool.not_true, Bool.false_eq_true, ↓reduceIte, List.filter_filter]
        apply List.filter_congr
        intro x _
        by_cases hx : x = e
        · subst hx; simp only [h, Bool.not_true, Bool.false_and]
        · rw [bne_iff_ne.mpr hx, Bool.and_true]
      · rw [if_neg h, ih (cur ++ [e])]
        simp only [ordUnion, dedup]
        rw [List.filter_cons]
        simp only [h, Bool.not_false, ↓reduceIte, List.filter_filter, List.append_assoc,
          List.singleton_append]
        congr 2
        apply List.filter_congr
        intro x _
        simp only [List.contains_append, List.contains_cons, List.contains_nil, Bool.or_false,
          Bool.not_or, bne, Bool.and_comm]

theorem ordUnion_nodup {cur : List Msg} (h : cur.Nodup) (new : List Msg) :
    (ordUnion cur new).Nodup := by
  refine List.nodup_append.2 ⟨h, (dedup_nodup new).filter _, fun a ha b hb hab => ?_⟩
  subst hab
  simp [ha] at hb

theorem mem_ordUnion (cur new : List Msg) (x : Msg) :
    x ∈ ordUnion cur new ↔ x ∈ cur ∨ x ∈ new := by
  unfold ordUnion
  simp only [List.mem_append, List.mem_filter, mem_dedup]
  by_cases h : x ∈ cur <;> simp [h]

theorem addMsgs_nodup {cur : List Msg} (h : cur.Nodup) (es : List (Option Msg)) :
    (addMsgs cur es).Nodup := by
  rw [addMsgs_eq_ordUnion]; exact ordUnion_nodup h _

theorem mem_addMsgs (cur : List Msg) (es : List (Option Msg)) (x : Msg) :
    x ∈ addMsgs cur es ↔ x ∈ cur ∨ some x ∈ es := by
  rw [addMsgs_eq_ordUnion, mem_ordUnion]
  simp only [List.mem_filterMap, id_eq, exists_eq_right]

theorem addMsgs_prefix (cur : List Msg) (es : List (Option Msg)) :
    cur <+: addMsgs cur es := by
  rw [addMsgs_eq_ordUnion]; exact List.prefix_append _ _

theorem addMsgs_isEmpty (cur : List Msg) (es : List (Option Msg)) :
    (addMsgs cur es).isEmpty = (cur.isEmpty && (es.filterMap id).isEmpty) := by
  rw [Bool.eq_iff_iff]
  simp [List.eq_nil_iff_forall_not_mem, mem_addMsgs, List.mem_filterMap, forall_and]

theorem mem_addMsgs_some (cur l : List Msg) (x : Msg) :
    x ∈ addMsgs cur (l.map some) ↔ x ∈ cur ∨ x ∈ l := by
  simp only [mem_addMsgs, List.mem_map, Option.some.injEq, exists_eq_right]

theorem addMsgs_append (cur : List Msg) (a b : List (Option Msg)) :
    addMsgs cur (a ++ b) = addMsgs (addMsgs cur a) b := by
  induction a generalizing cur with
  | nil => rfl
  | cons e a ih =>
    cases e with
    | none => exact ih cur
    | some e => simp only [List.cons_append, addMsgs]; split <;> exact ih _

theorem addMsgs_append_of_nodup (ws cur : List Msg) (hnd : (cur ++ ws).Nodup) :
    addMsgs cur (ws.map some) = cur ++ ws := by
  induction ws generalizing cur with
  | nil => simp only [List.map_nil, addMsgs, List.append_nil]
  | cons w ws ih =>
    have hw : ¬ cur.contains w = true := fun hc =>
      (List.nodup_append.mp hnd).2.2 w (List.contains_iff_mem.mp hc) w List.mem_cons_self rfl
    rw [List.map_cons, addMsgs, if_neg hw, ih _ (by rw [List.append_assoc]; exact hnd), List.append_assoc]; rfl

theorem forall_mem_addMsgs {U : Msg → Prop} {cur : List Msg} {es : List (Option Msg)} (h1 : ∀ m ∈ cur, U m)
    (h2 : ∀ m, some m ∈ es → U m) : ∀ m ∈ addMsgs cur es, U m :=
  fun m hm => ((mem_addMsgs cur es m).mp hm).elim (h1 m) (h2 m)

theorem Res.mem_mergeOne_errors (r o : Res) (m : Msg) : m ∈ (r.mergeOne o).errors ↔ m ∈ r.errors ∨ m ∈ o.errors :=
  mem_addMsgs_some _ _ _

theorem Res.mem_mergeOne_warnings (r o : Res) (m : Msg) : m ∈ (r.mergeOne o).warnings ↔ m ∈ r.warnings ∨ m ∈ o.warnings :=
  mem_addMsgs_some _ _ _

theorem Res.errors_nil_of_mergeOne {r o : Res} (h : (r.mergeOne o).errors = []) : r.errors = [] :=
  List.prefix_nil.mp (h ▸ addMsgs_prefix _ _)

/-! The variadic merges are folds over their non-nil operands, and what a fold does to a field of
    the result follows from what its step does to it. -/

namespace Res

theorem eq_foldl_of_rec {F : Res → List (Option Res) → Res} {f : Res → Res → Res} (h0 : ∀ r, F r [] = r)
    (hn : ∀ r os, F r (none :: os) = F r os) (hs : ∀ r o os, F r (some o :: os) = F (f r o) os)
    (r : Res) (os : List (Option Res)) : F r os = (os.filterMap id).foldl f r := by
  induction os generalizing r with
  | nil => exact h0 r
  | cons o os ih =>
    cases o with
    | none => rw [hn, ih]; rfl
    | some o => rw [hs, ih]; rfl

theorem merge_eq_foldl (r : Res) (os : List (Option Res)) :
    r.merge os = (os.filterMap id).foldl mergeOne r :=
  eq_foldl_of_rec (fun _ => rfl) (fun _ _ => rfl) (fun _ _ _ => rfl) r os

theorem mergeAsErrors_eq_foldl (r : Res) (os : List (Option Res)) :
    r.mergeAsErrors os = (os.filterMap id).foldl mergeAsErrorsOne r :=
  eq_foldl_of_rec (fun _ => rfl) (fun _ _ => rfl) (fun _ _ _ => rfl) r os

theorem mergeAsWarnings_eq_foldl (r : Res) (os : List (Option Res)) :
    r.mergeAsWarnings os = (os.filterMap id).foldl mergeAsWarningsOne r :=
  eq_foldl_of_rec (fun _ => rfl) (fun _ _ => rfl) (fun _ _ _ => rfl) r os

end Res

section fold
variable {f : Res → Res → Res}

theorem foldl_addMsgs {π g : Res → List Msg} (h : ∀ r o, π (f r o) = addMsgs (π r) ((g o).map some))
    (r : Res) (l : List Res) : π (l.foldl f r) = addMsgs (π r) ((l.flatMap g).map some) := by
  induction l generalizing r with
  | nil => rfl
  | cons o l ih => simp only [List.foldl_cons, ih, h, List.flatMap_cons, List.map_append, addMsgs_append]

theorem foldl_frame {γ} {π : Res → γ} (h : ∀ r o, π (f r o) = π r) (r : Res) (l : List Res) :
    π (l.foldl f r) = π r := by
  induction l generalizing r with
  | nil => rfl
  | cons o l ih => rw [List.foldl_cons, ih, h]

theorem foldl_mc (h : ∀ r o, (f r o).mc = r.mc + o.mc) (r : Res) (l : List Res) :
    (l.foldl f r).mc = r.mc + (l.map (·.mc)).sum := by
  induction l generalizing r with
  | nil => exact (Int.add_zero _).symm
  | cons o l ih => rw [List.foldl_cons, ih, h, List.map_cons, List.sum_cons, Int.add_assoc]

theorem foldl_and {π : Res → Bool} (h : ∀ r o, π (f r o) = (π r && π o)) (r : Res) (l : List Res) :
    π (l.foldl f r) = (π r && l.all π) := by
  induction l generalizing r with
  | nil => exact (Bool.and_true _).symm
  | cons o l ih => rw [List.foldl_cons, ih, h, List.all_cons, Bool.and_assoc]

theorem foldl_or {π : Res → Bool} (h : ∀ r o, π (f r o) = (π r || π o)) (r : Res) (l : List Res) :
    π (l.foldl f r) = (π r || l.any π) := by
  induction l generalizing r with
  | nil => exact (Bool.or_false _).symm
  | cons o l ih => rw [List.foldl_cons, ih, h, List.any_cons, Bool.or_assoc]

end fold

theorem mem_flatMap_operands {os : List (Option Res)} {g : Res → List Msg} {m : Msg} :
    m ∈ (os.filterMap id).flatMap g ↔ ∃ o, some o ∈ os ∧ m ∈ g o := by
  simp only [List.mem_flatMap, List.mem_filterMap, id_eq, exists_eq_right]

end VM
