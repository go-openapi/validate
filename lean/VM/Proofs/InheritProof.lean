/-
  C03 — the two inheritance checks of spec.go (circular ancestry, duplicate inherited properties) and the items check report
  nothing exactly when the declarative rules of `Spec/SpecRules.lean` hold.
-/
import VM.Spec.SpecRules
import VM.Proofs.RulesProof
namespace VM.Sw
open VM Sw Rules

theorem firstHit_ne_nil (f : Schema → List String × Bool) (l : List Schema) :
    (firstHit f l).1 ≠ [] ↔ ∃ c ∈ l, (f c).1 ≠ [] := by
  induction l with
  | nil => simp [firstHit]
  | cons c rest ih =>
    rw [firstHit]
    simp only [List.mem_cons, exists_eq_or_imp, ← ih]
    by_cases h : (f c).1 = []
    · simp [h]
    · simp [h]

/-- `Revisits` one level down, read as a recursive definition (`down` need not exclude `hit`: then `hit` applies) -/
theorem revisits_succ_iff (defs : String → Option Schema) (n : Nat) (sch : Schema) (path : List String) :
    Revisits defs (n + 1) sch path ↔
      ¬ (sch.base.ref = "" ∧ sch.allOf = []) ∧
        ((∃ r, aliasLoop defs 64 sch [] = some r) ∨
          ∃ schc, chase defs 64 sch = some schc ∧
            ((sch.base.ref ≠ "" ∧ sch.base.ref ∈ path) ∨
              ∃ chld ∈ ancestryKids schc,
                Revisits defs n chld (if sch.base.ref ≠ "" then sch.base.ref :: path else path))) := by
  constructor
  · rintro (⟨h0, hal⟩ | ⟨hr, hc, hp⟩ | ⟨h0, hc, -, hk, hd⟩)
    · exact ⟨h0, .inl ⟨_, hal⟩⟩
    · exact ⟨fun h => hr h.1, .inr ⟨_, hc, .inl ⟨hr, hp⟩⟩⟩
    · exact ⟨h0, .inr ⟨_, hc, .inr ⟨_, hk, hd⟩⟩⟩
  · rintro ⟨h0, ⟨r, hal⟩ | ⟨schc, hc, ⟨hr, hp⟩ | ⟨chld, hk, hd⟩⟩⟩
    · exact .alias h0 hal
    · exact .hit hr hc hp
    · by_cases hit : sch.base.ref ≠ "" ∧ sch.base.ref ∈ path
      · exact .hit hit.1 hc hit.2
      · exact .down h0 hc hit hk hd

theorem circAnc_iff (defs : String → Option Schema) (fuel : Nat) (nm : String) (sch : Schema) (path : List String) :
    (circAnc defs fuel nm sch path).1 ≠ [] ↔ Revisits defs fuel sch path := by
  induction fuel generalizing nm sch path with
  | zero => exact iff_of_false (fun h => h rfl) nofun
  | succ fuel ih =>
    rw [revisits_succ_iff, circAnc]
    -- the walk computes the right-hand side, test by test
    by_cases h0 : sch.base.ref = "" ∧ sch.allOf = []
    · rw [if_pos (by simp [h0.1, h0.2])]
      exact iff_of_false (fun h => h rfl) fun h => h.1 h0
    · rw [if_neg (by simpa using h0), and_iff_right h0]
      cases aliasLoop defs 64 sch [] with
      | some r => exact iff_of_true (List.cons_ne_nil _ _) (.inl ⟨r, rfl⟩)
      | none =>
        cases chase defs 64 sch with
        | none => exact iff_of_false (fun h => h rfl) fun h => h.elim (fun ⟨_, h⟩ => nomatch h) fun ⟨_, h, _⟩ => nomatch h
        | some schc =>
          simp only [reduceCtorEq, exists_const, false_or, Option.some.injEq, exists_eq_left', ne_eq]
          by_cases hr : sch.base.ref = ""
          · simp only [hr, bne_self_eq_false, Bool.false_eq_true, ↓reduceIte, Bool.false_and, firstHit_ne_nil, ih,
              not_true_eq_false, false_and, false_or]
          · by_cases hp : sch.base.ref ∈ path
            · simp only [bne_iff_ne, ne_eq, hr, not_false_eq_true, ↓reduceIte, List.contains_eq_mem, hp, decide_true,
                Bool.and_true, List.cons_ne_self, and_self, true_or]
            · simp only [bne_iff_ne, ne_eq, hr, not_false_eq_true, ↓reduceIte, List.contains_eq_mem, hp, decide_false,
                Bool.and_false, Bool.false_eq_true, firstHit_ne_nil, ih, and_false, false_or]

/-- What a step of a scan for repeated names owes. Its state is (reported so far, names known so far); taking the state from
    `acc` to `r` over something that declares `names`, it still has nothing to report exactly when it had nothing and the
    names are new and distinct, and it knows them afterwards. -/
def ScanOK (acc r : List String × List String) (names : List String) : Prop :=
  (r.1 = [] ↔ acc.1 = [] ∧ Fresh acc.2 names) ∧ ∀ x, x ∈ r.2 ↔ x ∈ acc.2 ∨ x ∈ names

theorem scan_fold {α : Type} (step : List String × List String → α → List String × List String) (L : α → List String)
    (cs : List α) (h : ∀ c ∈ cs, ∀ acc, ScanOK acc (step acc c) (L c)) (acc : List String × List String) :
    ScanOK acc (cs.foldl step acc) (cs.flatMap L) := by
  induction cs generalizing acc with
  | nil => simp [ScanOK, fresh_nil]
  | cons c rest ih =>
    obtain ⟨h1, h2⟩ := h c List.mem_cons_self acc
    obtain ⟨i1, i2⟩ := ih (fun c' hc => h c' (List.mem_cons_of_mem _ hc)) (step acc c)
    simp only [ScanOK, List.foldl_cons, List.flatMap_cons, i1, i2, h1, h2, fresh_append h2, List.mem_append, and_assoc, or_assoc,
      implies_true, and_self]

theorem scanOK_append {knowns names : List String} {r : List String × List String} (h : ScanOK ([], knowns) r names)
    (d : List String) : ScanOK (d, knowns) (d ++ r.1, r.2) names := by
  simpa [ScanOK, h.1] using h.2

theorem scanNames_ok (label : String) (names knowns : List String) :
    ScanOK ([], knowns) (scanNames label names knowns) names := by
  have h : ScanOK ([], knowns) (scanNames label names knowns) (names.flatMap fun k => [k]) :=
    scan_fold _ _ names (fun k _ acc => by by_cases hk : k ∈ acc.2 <;> simp [ScanOK, fresh_singleton, hk, or_comm]) _
  rwa [List.flatMap_singleton'] at h

theorem dupProps_ok (defs : String → Option Schema) (fuel : Nat) (nm : String) (sch : Schema) (knowns : List String) :
    ScanOK ([], knowns) (dupProps defs fuel nm sch knowns) (leafNames defs fuel sch) := by
  induction fuel generalizing nm sch knowns with
  | zero => simp [dupProps, leafNames, ScanOK, fresh_nil]
  | succ fuel ih =>
    rw [dupProps, leafNames]
    cases chase defs 64 sch with
    | none => simp [ScanOK, fresh_nil]
    | some schc =>
      by_cases ha : schc.allOf.isEmpty = true
      · simpa [ha] using scanNames_ok _ _ _
      · simp only [ha, Bool.not_false, ↓reduceIte, ← List.flatMap_def]
        exact scan_fold _ _ schc.allOf (fun c _ acc => scanOK_append (ih _ c acc.2) acc.1) _

theorem dupProps_nil_iff (defs : String → Option Schema) (fuel : Nat) (nm : String) (sch : Schema) :
    (dupProps defs fuel nm sch []).1 = [] ↔ (leafNames defs fuel sch).Nodup := by
  simpa [fresh_nil_left] using (dupProps_ok defs fuel nm sch []).1

theorem duplicatePropertyErrs_nil_iff (defs : String → Option Schema) (l : List (String × Schema)) :
    duplicatePropertyErrs defs l = [] ↔
      ∀ ds ∈ l, ds.2.allOf ≠ [] → ¬ Revisits defs 64 ds.2 [defRef ds.1] ∧ (leafNames defs 64 ds.2).Nodup := by
  induction l with
  | nil => simp [duplicatePropertyErrs]
  | cons ds rest ih =>
    obtain ⟨k, sch⟩ := ds
    rw [duplicatePropertyErrs, List.forall_mem_cons, ← ih, ← circAnc_iff defs 64 k, ← dupProps_nil_iff defs 64 k]
    by_cases he : sch.allOf = []
    · simp [he]
    · by_cases hc : (circAnc defs 64 k sch [defRef k]).1 = []
      · by_cases hd : (dupProps defs 64 k sch []).1 = [] <;> simp [he, hc, hd]
      · simp [he, hc]

theorem inheritanceErrs_nil_iff (v : View) : duplicatePropertyErrs (defsLookup v) v.defs = [] ↔ InheritanceRules v :=
  duplicatePropertyErrs_nil_iff _ _

theorem schemaItemsErrs_nil_iff (O : Oracles) (defs : String → Option Schema) (pre op : String) (fuel : Nat) (s : Schema) :
    schemaItemsErrs O defs pre op fuel s = [] ↔ itemsDeclared O defs fuel s = true := by
  induction fuel generalizing s with
  | zero => simp only [schemaItemsErrs, itemsDeclared]
  | succ fuel ih =>
    rw [schemaItemsErrs, itemsDeclared]
    by_cases hr : (s.base.ref != "") = true
    · rw [if_pos hr, if_pos hr]
      cases defs s.base.ref <;> simp only [ih]
    · rw [if_neg hr, if_neg hr]
      by_cases ha : (!s.base.types.contains "array") = true
      · rw [if_pos ha, if_pos ha]; exact iff_of_true rfl rfl
      · rw [if_neg ha, if_neg ha]
        cases s.itemsS with
        | none => cases s.itemsT <;> simp
        | some it => simp [ih]

theorem responseItemsErrs_nil_iff (O : Oracles) (op : String) (r : Response) :
    responseItemsErrs O op r = [] ↔ ResponseDeclaresItems O r := by
  rw [responseItemsErrs, ResponseDeclaresItems, List.append_eq_nil_iff, List.filterMap_eq_nil_iff]
  refine and_congr (by simp only [ite_some_none_iff, Bool.and_eq_true, beq_iff_eq]) ?_
  cases r.schema <;> simp [schemaItemsErrs_nil_iff]

theorem itemsErrs_nil_iff (O : Oracles) (defs : String → Option Schema) (v : View) :
    itemsErrs O defs v = [] ↔ ArraysDeclareItems O defs v := by
  simp only [itemsErrs, ArraysDeclareItems, List.flatMap_eq_nil_iff, List.append_eq_nil_iff, responseItemsErrs_nil_iff]
  refine forall_congr' fun o => imp_congr_right fun _ => and_congr_left' (forall_congr' fun p => imp_congr_right fun _ => ?_)
  rw [ParamDeclaresItems]
  by_cases h1 : p.type = "array" ∧ p.itemsType = ""
  · simp [h1]
  · by_cases hb : p.loc = "body"
    · cases p.schema <;> simp [h1, hb, schemaItemsErrs_nil_iff]
    · simp [h1, hb]

end VM.Sw
