/-
  C18 / C19 — the field-schemata entries the validator tree records for valid data are, as a set,
  exactly the (object, member, default) triples the specification of applicable schemas lists.
-/
import VM.Impl.Post
import VM.Spec.Post
import VM.Proofs.Tree
namespace VM.PostProof
open VM Impl Spec Post

def Sim (es as : List Entry) : Prop := ∀ e, e ∈ es ↔ e ∈ as

theorem Sim.refl (a : List Entry) : Sim a a := fun _ => Iff.rfl
theorem Sim.symm {a b : List Entry} (h : Sim a b) : Sim b a := fun e => (h e).symm
theorem Sim.trans {a b c : List Entry} (h1 : Sim a b) (h2 : Sim b c) : Sim a c := fun e => (h1 e).trans (h2 e)

theorem mem_flatten_map {α : Type} {l : List α} {F : α → List Entry} {e : Entry} :
    e ∈ (l.map F).flatten ↔ ∃ a ∈ l, e ∈ F a := List.mem_flatMap

theorem sim_append {a b c d : List Entry} (h1 : Sim a b) (h2 : Sim c d) : Sim (a ++ c) (b ++ d) := by
  intro e; simp only [List.mem_append, h1 e, h2 e]

theorem sim_append_comm (a b : List Entry) : Sim (a ++ b) (b ++ a) := by
  intro e; simp only [List.mem_append]; exact or_comm

theorem sim_absorb {a b : List Entry} (h : a ⊆ b) : Sim (a ++ b) b := by
  intro e; simp only [List.mem_append]
  exact ⟨fun h' => h'.elim (@h e) id, Or.inr⟩

theorem sim_absorb_mid {a b c : List Entry} (h : b ⊆ a) : Sim (a ++ (b ++ c)) (a ++ c) := by
  intro e; simp only [List.mem_append]
  exact ⟨fun h' => h'.elim .inl (·.elim (.inl ∘ @h e) .inr), fun h' => h'.elim .inl (.inr ∘ .inr)⟩

/-- `a ++ b ++ c` against `b' ++ c' ++ a'`, where `a` becomes `a'` once what `c` holds anyway is left out of it -/
theorem sim_rotate {a b c m a' b' c' : List Entry} (hb : Sim b b') (hc : Sim c c')
    (ha : Sim (c ++ a) (c ++ m)) (hm : Sim m a') : Sim (a ++ b ++ c) (b' ++ c' ++ a') := by
  intro e
  have := ha.trans (sim_append hc hm) e
  simp only [List.mem_append] at this ⊢
  exact (or_congr_left or_comm).trans <| or_assoc.trans <| (or_congr (hb e) (or_comm.trans this)).trans or_assoc.symm

theorem sim_flatten_map {α : Type} (l : List α) (F G : α → List Entry) (h : ∀ a ∈ l, Sim (F a) (G a)) :
    Sim (l.map F).flatten (l.map G).flatten := by
  intro e; simp only [mem_flatten_map]
  exact exists_congr fun a => and_congr_right fun ha => h a ha e

/-- member by member, two lists at a time: entries may move from one list to the other -/
theorem sim_flatten_map₂ {α : Type} (l : List α) {F G F' G' : α → List Entry}
    (h : ∀ a ∈ l, Sim (F a ++ G a) (F' a ++ G' a)) :
    Sim ((l.map F).flatten ++ (l.map G).flatten) ((l.map F').flatten ++ (l.map G').flatten) := by
  intro e
  have h' : ∀ a, a ∈ l ∧ (e ∈ F a ∨ e ∈ G a) ↔ a ∈ l ∧ (e ∈ F' a ∨ e ∈ G' a) := fun a =>
    and_congr_right fun ha => by simpa only [List.mem_append] using h a ha e
  simp only [List.mem_append, mem_flatten_map, ← exists_or, ← and_or_left, h']

theorem sim_flatten_all2 {α β : Type} {R : α → β → Prop} {as : List α} {bs : List β} (h : All2 R as bs)
    (F : α → List Entry) (G : β → List Entry) (hFG : ∀ a b, R a b → Sim (F a) (G b)) :
    Sim (as.map F).flatten (bs.map G).flatten := by
  induction h with
  | nil => exact Sim.refl _
  | cons hab _ ih => exact sim_append (hFG _ _ hab) ih

theorem filter_isEmpty_eq {α : Type} (l : List α) (p : α → Bool) : (l.filter p).isEmpty = !l.any p := by
  rw [Bool.eq_iff_iff]
  simp only [List.isEmpty_iff, List.filter_eq_nil_iff, Bool.not_eq_true', List.any_eq_false]

theorem akeys_all2 {α β : Type} {R : α → β → Prop} {as : List (String × α)} {bs : List (String × β)}
    (h : All2 (fun a b => a.1 = b.1 ∧ R a.2 b.2) as bs) : akeys as = akeys bs := h.akeys_eq

/-! ### relations between the entry builders and the specification's builders -/

def FSim (P : JVal → Prop) (f : E) (g : A) : Prop := ∀ pos x, P x → Sim (f pos x) (g pos x)

structure KSim (P : JVal → Prop) (kE : EKids) (kA : AKids) : Prop where
  itemsS : Opt2 (FSim P) kE.itemsS kA.itemsS
  itemsT : All2 (FSim P) kE.itemsT kA.itemsT
  addItemsS : Opt2 (FSim P) kE.addItemsS kA.addItemsS
  props : All2 (fun a b => a.1 = b.1 ∧ a.2.1 = b.2.1 ∧ FSim P a.2.2 b.2.2) kE.props kA.props
  patProps : All2 (fun a b => a.1 = b.1 ∧ FSim P a.2 b.2) kE.patProps kA.patProps
  addPropsS : Opt2 (FSim P) kE.addPropsS kA.addPropsS
  depSchemas : All2 (fun a b => a.1 = b.1 ∧ FSim P a.2 b.2) kE.depSchemas kA.depSchemas
  allOf : All2 (FSim P) kE.allOf kA.allOf
  anyOf : All2 (FSim P) kE.anyOf kA.anyOf
  oneOf : All2 (FSim P) kE.oneOf kA.oneOf

theorem sim_firstValid {P : JVal → Prop} {fs : List E} {gs : List A} (h : All2 (FSim P) fs gs) (oks : List Bool)
    (pos : Post.Pos) (v : JVal) (hv : P v) :
    Sim (match (fs.zip oks).find? (·.2) with | some (f, _) => f pos v | none => [])
        (match (gs.zip oks).find? (·.2) with | some (g, _) => g pos v | none => []) := by
  induction h generalizing oks with
  | nil => exact Sim.refl _
  | cons hab _ ih =>
    cases oks with
    | nil => exact Sim.refl _
    | cons ok oks =>
      cases ok with
      | true => exact hab pos v hv
      | false => exact ih oks

theorem sim_tuple {P : JVal → Prop} {fs : List E} {gs : List A} (h : All2 (FSim P) fs gs) (pos : Post.Pos)
    (xs : List JVal) (hx : ∀ x ∈ xs, P x) (n : Nat) :
    Sim (((fs.zip xs).zipIdx n).map fun ((f, x), i) => f (pos ++ [idxSeg i]) x).flatten
        (((gs.zip xs).zipIdx n).map fun ((g, x), i) => g (pos ++ [toString i]) x).flatten := by
  induction h generalizing xs n with
  | nil => exact Sim.refl _
  | cons hab _ ih =>
    cases xs with
    | nil => exact Sim.refl _
    | cons x xs =>
      exact sim_append (hab _ _ (hx x List.mem_cons_self)) (ih xs (fun y hy => hx y (List.mem_cons_of_mem _ hy)) (n + 1))

/-- the code looks each member up among the keyed builders `ds`, the specification walks its own `gs` and asks which keys
    are members: the same, provided a key occurs once -/
theorem sim_lookup {P : JVal → Prop} {ds : List (String × E)} {gs : List (String × A)}
    (h : All2 (fun a b => a.1 = b.1 ∧ FSim P a.2 b.2) ds gs) (hn : (akeys ds).Nodup) {γ : Type} (kvs : List (String × γ))
    (pos : Post.Pos) (v : JVal) (hv : P v) :
    Sim (kvs.map fun kv => match alookup kv.1 ds with | some f => f pos v | none => []).flatten
        (gs.map fun ng => if ahas ng.1 kvs then ng.2 pos v else []).flatten := by
  refine Sim.trans (b := (ds.map fun nf => if ahas nf.1 kvs then nf.2 pos v else []).flatten) (fun e => ?_) ?_
  · simp only [mem_flatten_map, List.mem_ite_nil_right, ahas_iff_mem]
    constructor
    · rintro ⟨⟨k, x⟩, hkv, he⟩
      cases hl : alookup k ds with
      | none => simp only [hl] at he; cases he
      | some f => exact ⟨(k, f), alookup_mem hl, ⟨x, hkv⟩, by simpa only [hl] using he⟩
    · rintro ⟨⟨k, f⟩, hkf, ⟨x, hkv⟩, he⟩
      exact ⟨(k, x), hkv, by simpa only [alookup_of_mem_nodup hn hkf] using he⟩
  · refine sim_flatten_all2 h _ _ fun a b hab => ?_
    rw [hab.1]
    split
    · exact hab.2 pos v hv
    · exact Sim.refl _

theorem hasDefault_eq (d : Option JVal) : Impl.hasDefault d = Spec.declaresDefault d := by
  cases d with
  | none => rfl
  | some v => cases v <;> rfl

/-- `nodeEntries` and `nodeApplies` are the same six lists in the same order; each pair is compared in turn. Only the object
    members need more than congruence: the code's first pass (additional properties) also records what the patterns matching
    an undeclared member yield, its last pass (pattern properties) records that again, and the specification lists it once. -/
theorem node_sim {P : JVal → Prop} (hsubA : ∀ xs, P (.arr xs) → ∀ x ∈ xs, P x)
    (hsubO : ∀ kvs, P (.obj kvs) → ∀ kv ∈ kvs, P kv.2)
    (O : Oracles) (b : SBase) {kE : EKids} {kA : AKids} (hk : KSim P kE kA)
    (hadd : b.addProps = .schema ↔ kE.addPropsS.isSome = true) (hn : (akeys kE.depSchemas).Nodup)
    (anyOk oneOk : List Bool) (pos : Post.Pos) (v : JVal) (hv : P v) :
    Sim (nodeEntries O b kE anyOk oneOk pos v) (nodeApplies O b kA anyOk oneOk pos v) := by
  unfold nodeEntries nodeApplies compEntries
  refine sim_append (sim_append (sim_append (sim_append (sim_append ?anyOf ?oneOf) ?allOf) ?deps) ?elems) ?members
  case anyOf => exact sim_firstValid hk.anyOf anyOk pos v hv
  case oneOf =>
    split
    · exact sim_firstValid hk.oneOf oneOk pos v hv
    · exact Sim.refl _
  case allOf => exact sim_flatten_all2 hk.allOf _ _ fun f g hfg => hfg pos v hv
  case deps =>
    cases v with
    | obj kvs => exact sim_lookup hk.depSchemas hn kvs pos _ hv
    | _ => exact Sim.refl _
  case elems =>
    cases v with
    | arr xs =>
      have hx := hsubA xs hv
      have hxi : ∀ xi ∈ xs.zipIdx, P xi.1 := fun xi h => hx _ (List.fst_mem_of_mem_zipIdx h)
      unfold sliceEntries
      refine sim_append (sim_append ?_ (sim_tuple hk.itemsT pos xs hx 0)) ?_
      · obtain ⟨hE, hA⟩ | ⟨f, g, hE, hA, h⟩ := hk.itemsS.cases <;> rw [hE, hA]
        · exact Sim.refl _
        · exact sim_flatten_map _ _ _ fun xi hi => h _ _ (hxi xi hi)
      · cases b.addItems with
        | schema =>
          obtain ⟨hE, hA⟩ | ⟨f, g, hE, hA, h⟩ := hk.addItemsS.cases <;> rw [hE, hA]
          · exact Sim.refl _
          · simp only [hk.itemsT.isEmpty_eq, hk.itemsT.length_eq]
            split
            · exact Sim.refl _
            · exact sim_flatten_map _ _ _ fun xi hi => h _ _ (hxi xi (List.mem_of_mem_drop hi))
        | _ => exact Sim.refl _
    | _ => exact Sim.refl _
  case members =>
    cases v with
    | obj kvs =>
      have hx := hsubO kvs hv
      have hreg (n : String) : (kE.props.any fun a => a.1 == n) = ahas n kA.props :=
        (hk.props.any_eq fun a b hab => by rw [hab.1]).trans (ahas_eq_any n _).symm
      have hms (n : String) := hk.patProps.filter (p := fun a => O.re a.1 n == some true)
        (q := fun a => O.re a.1 n == some true) fun a b hab => by rw [hab.1]
      simp only [objectEntries]
      -- `m`: what the first pass records beyond the last one
      refine sim_rotate (m :=
        if b.addProps == .bool false then [] else
          (kvs.map fun kv =>
            if (kE.props.any fun a => a.1 == kv.1) || !(kE.patProps.filter fun a => O.re a.1 kv.1 == some true).isEmpty
            then []
            else match kE.addPropsS with
              | some f => f (pos ++ [kv.1]) kv.2 ++ [{ pos := pos, field := kv.1, dflt := none }]
              | none => []).flatten) ?props ?pats ?absorb ?addl
      case props =>
        refine sim_flatten_all2 hk.props _ _ ?_
        rintro ⟨n, d, f⟩ ⟨_, _, g⟩ ⟨rfl, rfl, hfg⟩
        simp only
        cases hl : alookup n kvs with
        | none => rw [hasDefault_eq]; exact Sim.refl _
        | some x => exact (sim_append (hfg _ _ (hx _ (alookup_mem hl))) (Sim.refl _)).trans (sim_append_comm _ [_])
      case pats =>
        refine sim_flatten_map _ _ _ fun kv hkv => ?_
        have hfg (a : String × E) (c : String × A) (hac : a.1 = c.1 ∧ FSim P a.2 c.2) :
            Sim (a.2 (pos ++ [kv.1]) kv.2) (c.2 (pos ++ [kv.1]) kv.2) := hac.2 _ _ (hx kv hkv)
        rw [hreg]
        split
        · rw [List.append_nil]; exact sim_flatten_all2 (hms kv.1) _ _ hfg
        · refine (sim_absorb fun e he => ?_).trans (sim_flatten_all2 (hms kv.1) _ _ fun a c hac =>
            (sim_append_comm _ _).trans (sim_append (Sim.refl _) (hfg a c hac)))
          obtain ⟨a, ha, h⟩ := mem_flatten_map.mp he
          exact mem_flatten_map.mpr ⟨a, ha, List.mem_append_left _ h⟩
      case absorb =>
        generalize (b.addProps == AddL.bool false) = skip
        cases skip
        · refine sim_flatten_map₂ kvs fun kv _ => ?_
          generalize kE.props.any _ = reg
          cases reg
          · exact sim_absorb_mid (List.subset_append_left _ _)
          · exact Sim.refl _
        · exact Sim.refl _
      case addl =>
        obtain ⟨hE, hA⟩ | ⟨f, g, hE, hA, hfg⟩ := hk.addPropsS.cases <;> rw [hA] <;> simp only [hE]
        · simp only [ite_self, List.map_const', List.flatten_replicate_nil]
          cases b.addProps <;> exact Sim.refl _
        · have hb : b.addProps = .schema := hadd.mpr (by rw [hE]; rfl)
          simp only [hb]
          refine sim_flatten_map _ _ _ fun kv hkv => ?_
          rw [hreg, (hms kv.1).isEmpty_eq, filter_isEmpty_eq, Bool.not_not]
          split
          · exact Sim.refl _
          · exact (sim_append (hfg _ _ (hx kv hkv)) (Sim.refl _)).trans (sim_append_comm _ [_])
    | _ => exact Sim.refl _

/-! ### the whole tree -/

section
variable (cfg : Cfg) (O : Oracles) (r : String → V) (re : String → E)

theorem entriesL_eq_map (l : List Schema) : entriesL cfg O r re l = l.map (entries cfg O r re) :=
  eq_map_of_rec rfl (fun _ _ => rfl) l

theorem entriesM_eq_map (l : List (String × Schema)) :
    entriesM cfg O r re l = l.map fun p => (p.1, entries cfg O r re p.2) :=
  eq_map_of_rec rfl (fun _ _ => rfl) l

theorem akeys_entriesM (l : List (String × Schema)) : akeys (entriesM cfg O r re l) = akeys l := by
  simp only [entriesM_eq_map, akeys, List.map_map, Function.comp_def]

theorem entriesP_eq_map (l : List (String × Schema)) :
    entriesP cfg O r re l = l.map fun p => (p.1, p.2.base.default, entries cfg O r re p.2) :=
  eq_map_of_rec rfl (fun _ _ => rfl) l

def ekidsOf : Schema → EKids
  | .mk _ itemsS itemsT addItemsS props patProps addPropsS depSchemas allOf anyOf oneOf _ =>
    { itemsS := itemsS.map (entries cfg O r re)
      itemsT := entriesL cfg O r re itemsT
      addItemsS := addItemsS.map (entries cfg O r re)
      props := entriesP cfg O r re props
      patProps := entriesM cfg O r re patProps
      addPropsS := addPropsS.map (entries cfg O r re)
      depSchemas := entriesM cfg O r re depSchemas
      allOf := entriesL cfg O r re allOf
      anyOf := entriesL cfg O r re anyOf
      oneOf := entriesL cfg O r re oneOf }

theorem entries_eq (s : Schema) (pos : Post.Pos) (v : JVal) :
    entries cfg O r re s pos v = if s.base.ref != "" then re s.base.ref pos v else
      nodeEntries O s.base (ekidsOf cfg O r re s) (okL cfg O r s.anyOf v) (okL cfg O r s.oneOf v) pos v := by
  obtain ⟨_, itemsS, _, addItemsS, _, _, addPropsS, _, _, _, _, nt⟩ := s
  cases itemsS <;> cases addItemsS <;> cases addPropsS <;> rfl
end

section
variable (O : Oracles) (r : String → JVal → Bool) (ra : String → A)

theorem appliesL_eq_map (l : List Schema) : appliesL O r ra l = l.map (applies O r ra) :=
  eq_map_of_rec rfl (fun _ _ => rfl) l

theorem appliesM_eq_map (l : List (String × Schema)) :
    appliesM O r ra l = l.map fun p => (p.1, applies O r ra p.2) :=
  eq_map_of_rec rfl (fun _ _ => rfl) l

theorem appliesP_eq_map (l : List (String × Schema)) :
    appliesP O r ra l = l.map fun p => (p.1, p.2.base.default, applies O r ra p.2) :=
  eq_map_of_rec rfl (fun _ _ => rfl) l

def akidsOf : Schema → AKids
  | .mk _ itemsS itemsT addItemsS props patProps addPropsS depSchemas allOf anyOf oneOf _ =>
    { itemsS := itemsS.map (applies O r ra)
      itemsT := appliesL O r ra itemsT
      addItemsS := addItemsS.map (applies O r ra)
      props := appliesP O r ra props
      patProps := appliesM O r ra patProps
      addPropsS := addPropsS.map (applies O r ra)
      depSchemas := appliesM O r ra depSchemas
      allOf := appliesL O r ra allOf
      anyOf := appliesL O r ra anyOf
      oneOf := appliesL O r ra oneOf }

theorem applies_eq (s : Schema) (pos : Post.Pos) (v : JVal) :
    applies O r ra s pos v = if s.base.ref != "" then ra s.base.ref pos v else
      nodeApplies O s.base (akidsOf O r ra s) (validOkL O r s.anyOf v) (validOkL O r s.oneOf v) pos v := by
  obtain ⟨_, itemsS, _, addItemsS, _, _, addPropsS, _, _, _, _, nt⟩ := s
  cases itemsS <;> cases addItemsS <;> cases addPropsS <;> rfl
end

section tree
variable (cfg : Cfg) (O : Oracles)
  (hbound : cfg.addlItemsBound = false)
  (hO : cfg.floatTolerance = true → OExact O)
  (rI : String → V) (rS : String → JVal → Bool) (known : String → Bool)
  (hr : ∀ name, known name = true → VAgree (AdmP cfg) (rI name) (rS name))
  (hleak : cfg.leaksImportant = true → ∀ name, NoImp.LV (rI name))
  (reE : String → E) (raA : String → A)
  (hre : ∀ name, known name = true → FSim (AdmP cfg) (reE name) (raA name))

section kids
variable {P : JVal → Prop} {cfg} {O} {rI} {rS} {reE} {raA}

theorem all2_entriesL (l : List Schema) (h : ∀ t ∈ l, FSim P (entries cfg O rI reE t) (applies O rS raA t)) :
    All2 (FSim P) (entriesL cfg O rI reE l) (appliesL O rS raA l) := by
  rw [entriesL_eq_map, appliesL_eq_map]
  exact all2_map _ _ l h

theorem all2_entriesM (l : List (String × Schema)) (h : ∀ p ∈ l, FSim P (entries cfg O rI reE p.2) (applies O rS raA p.2)) :
    All2 (fun a b => a.1 = b.1 ∧ FSim P a.2 b.2) (entriesM cfg O rI reE l) (appliesM O rS raA l) := by
  rw [entriesM_eq_map, appliesM_eq_map]
  exact all2_map _ _ l fun p hp => ⟨rfl, h p hp⟩

theorem all2_entriesP (l : List (String × Schema)) (h : ∀ p ∈ l, FSim P (entries cfg O rI reE p.2) (applies O rS raA p.2)) :
    All2 (fun a b => a.1 = b.1 ∧ a.2.1 = b.2.1 ∧ FSim P a.2.2 b.2.2) (entriesP cfg O rI reE l) (appliesP O rS raA l) := by
  rw [entriesP_eq_map, appliesP_eq_map]
  exact all2_map _ _ l fun p hp => ⟨rfl, rfl, h p hp⟩

theorem ksim_of_kids (s : Schema) (h : ∀ t ∈ s.kids, FSim P (entries cfg O rI reE t) (applies O rS raA t)) :
    KSim P (ekidsOf cfg O rI reE s) (akidsOf O rS raA s) := by
  obtain ⟨_, itemsS, itemsT, addItemsS, props, patProps, addPropsS, depSchemas, allOf, anyOf, oneOf, nt⟩ := s
  obtain ⟨h1, h2, h3, h4, h5, h6, h7, h8, h9, h10, _⟩ := Schema.forall_mem_kids.mp h
  exact ⟨opt2_map _ _ _ h1, all2_entriesL _ h2, opt2_map _ _ _ h3, all2_entriesP _ h4, all2_entriesM _ h5,
    opt2_map _ _ _ h6, all2_entriesM _ h7, all2_entriesL _ h8, all2_entriesL _ h9, all2_entriesL _ h10⟩

end kids

section
variable {cfg} {O} {rI} {rS} {known}
include hleak hbound hO hr

theorem okL_eq (ss : List Schema) (hs : ∀ s ∈ ss, wf cfg known s = true) (v : JVal) (hv : AdmP cfg v) :
    okL cfg O rI ss v = validOkL O rS ss v := by
  induction ss with
  | nil => rfl
  | cons s ss ih =>
    have h := (validate_agree cfg O hbound hO rI rS known hr hleak s (hs s List.mem_cons_self) "" v hv).2
    simp only [okL, validOkL, ih fun t ht => hs t (List.mem_cons_of_mem _ ht)]
    congr 1

end

include hleak hbound hO hr hre

theorem entries_sim (s : Schema) (hs : wf cfg known s = true) :
    FSim (AdmP cfg) (fun p x => entries cfg O rI reE s p x) (fun p x => applies O rS raA s p x) := by
  refine wf_induct (fun s href hk pos v hv => ?_) (fun s href hn hkids ih pos v hv => ?_) s hs
  · simp only [entries_eq, applies_eq, if_pos href]
    exact hre _ hk pos v hv
  · simp only [entries_eq, applies_eq, if_neg href]
    have hk := ksim_of_kids s ih
    obtain ⟨b, itemsS, itemsT, addItemsS, props, patProps, addPropsS, depSchemas, allOf, anyOf, oneOf, nt⟩ := s
    obtain ⟨_, _, _, _, _, _, _, _, h9, h10, _⟩ := Schema.forall_mem_kids.mp hkids
    simp only [Schema.base, Schema.anyOf, Schema.oneOf, Schema.props, Schema.addPropsS, Schema.depSchemas] at hn ⊢
    obtain ⟨_, _, _, _, _, n6, n7⟩ := nodeWf_iff.mp hn
    rw [okL_eq hbound hO hr hleak anyOf h9 v hv, okL_eq hbound hO hr hleak oneOf h10 v hv]
    refine node_sim (admList_mem cfg) (fun kvs h => (admMembers_mem cfg kvs h).1) O b hk ?_ ?_ _ _ pos v hv
    · rw [n6]; cases addPropsS <;> rfl
    · show (akeys (entriesM cfg O rI reE depSchemas)).Nodup
      rw [akeys_entriesM]
      exact (List.nodup_append.mp n7).1

theorem entriesL_sim (ss : List Schema) (hs : wfL cfg known ss = true) :
    All2 (FSim (AdmP cfg)) (entriesL cfg O rI reE ss) (appliesL O rS raA ss) := by
  rw [wfL_eq_all, List.all_eq_true] at hs
  exact all2_entriesL ss fun s h => entries_sim cfg O hbound hO rI rS known hr hleak reE raA hre s (hs s h)

theorem entriesM_sim (ps : List (String × Schema)) (hs : wfM cfg known ps = true) :
    All2 (fun a b => a.1 = b.1 ∧ FSim (AdmP cfg) a.2 b.2) (entriesM cfg O rI reE ps) (appliesM O rS raA ps) := by
  rw [wfM_eq_all, List.all_eq_true] at hs
  exact all2_entriesM ps fun p h =>
    entries_sim cfg O hbound hO rI rS known hr hleak reE raA hre p.2 (hs _ (List.mem_map_of_mem h))

theorem entriesP_sim (ps : List (String × Schema)) (hs : wfM cfg known ps = true) :
    All2 (fun a b => a.1 = b.1 ∧ a.2.1 = b.2.1 ∧ FSim (AdmP cfg) a.2.2 b.2.2) (entriesP cfg O rI reE ps) (appliesP O rS raA ps) := by
  rw [wfM_eq_all, List.all_eq_true] at hs
  exact all2_entriesP ps fun p h =>
    entries_sim cfg O hbound hO rI rS known hr hleak reE raA hre p.2 (hs _ (List.mem_map_of_mem h))
end tree

theorem entriesF_sim (cfg : Cfg) (O : Oracles)
    (hbound : cfg.addlItemsBound = false)
    (hO : cfg.floatTolerance = true → OExact O)
    (defs : String → Option Schema) (hdefs : DefsWf cfg defs) (n : Nat) :
    ∀ s, wf cfg (fun n => (defs n).isSome) s = true →
      FSim (AdmP cfg) (entriesF cfg O defs n s) (appliesF O defs n s) := by
  induction n with
  | zero =>
    exact entries_sim cfg O hbound hO _ _ (fun n => (defs n).isSome)
      (fun _ _ _ _ _ => ⟨rfl, rfl⟩) (fun _ _ p _ _ => NoImp.loc_sErr p eFuel rfl) _ _ (fun _ _ _ _ _ => Sim.refl _)
  | succ n ih =>
    refine entries_sim cfg O hbound hO _ _ (fun n => (defs n).isSome)
      (refF_agree cfg O defs hdefs n (validateF_agree cfg O hbound hO defs hdefs n)) (fun _ => refF_loc cfg O defs n)
      _ _ fun name hk => ?_
    obtain ⟨t, hd⟩ := Option.isSome_iff_exists.mp hk
    simpa only [hd] using ih t (hdefs name t hd)

end VM.PostProof
