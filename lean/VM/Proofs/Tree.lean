/-
  The whole validator tree: `Impl.validate` agrees with `Spec.valid` on every schema of the
  vocabulary (`wf_induct`; `$ref` through agreeing resolvers, then by fuel).
-/
import VM.Proofs.Node
import VM.Spec.Vocabulary
namespace VM
open Impl Spec

theorem nodeWf_iff {cfg : Cfg} {b : SBase} {props : List (String × Schema)} {addPropsS : Option Schema}
    {depSchemas : List (String × Schema)} :
    nodeWf cfg b props addPropsS depSchemas = true ↔
      (b.format ≠ "" → b.types ≠ []) ∧
      (cfg.formatBypassesType = true →
        b.format = "" ∨ b.types.contains "number" = true ∨ b.types.contains "integer" = true) ∧
      (∀ m, b.multipleOf = some m → 0 < m) ∧ b.nullable = false ∧
      (cfg.requiredByDefault = true → ∀ n ∈ b.required, (defaultsOf props).contains n = false) ∧
      (b.addProps = .schema ↔ addPropsS.isSome = true) ∧
      (akeys depSchemas ++ akeys b.depProps).Nodup := by
  simp only [nodeWf, Bool.and_eq_true, and_assoc]
  refine and_congr ?_ <| and_congr ?_ <| and_congr ?_ <| and_congr ?_ <| and_congr ?_ <| and_congr ?_ ?_
  · cases b.types <;> simp
  · cases cfg.formatBypassesType <;> simp [or_assoc]
  · cases b.multipleOf <;> simp
  · simp
  · cases cfg.requiredByDefault <;> simp
  · cases b.addProps <;> cases addPropsS <;> simp
  · simp

theorem wfL_eq_all (cfg : Cfg) (known : String → Bool) (l : List Schema) : wfL cfg known l = l.all (wf cfg known) :=
  eq_all_of_rec rfl (fun _ _ => rfl) l

theorem wfM_eq_all (cfg : Cfg) (known : String → Bool) (l : List (String × Schema)) :
    wfM cfg known l = (l.map (·.2)).all (wf cfg known) :=
  (eq_all_of_rec (f := fun _ => _) rfl (fun _ _ => rfl) l).trans List.all_map.symm

theorem wf_eq (cfg : Cfg) (known : String → Bool) (s : Schema) :
    wf cfg known s = ((s.base.ref != "" && known s.base.ref) ||
      (s.base.ref == "" && nodeWf cfg s.base s.props s.addPropsS s.depSchemas && s.kids.all (wf cfg known))) := by
  obtain ⟨b, itemsS, itemsT, addItemsS, props, patProps, addPropsS, depSchemas, allOf, anyOf, oneOf, nt⟩ := s
  have e : wf cfg known (.mk b itemsS itemsT addItemsS props patProps addPropsS depSchemas allOf anyOf oneOf nt) =
      ((b.ref != "" && known b.ref) || (b.ref == "" && nodeWf cfg b props addPropsS depSchemas
        && itemsS.all (wf cfg known) && wfL cfg known itemsT && addItemsS.all (wf cfg known)
        && wfM cfg known props && wfM cfg known patProps && addPropsS.all (wf cfg known) && wfM cfg known depSchemas
        && wfL cfg known allOf && wfL cfg known anyOf && wfL cfg known oneOf && nt.all (wf cfg known))) := by
    cases itemsS <;> cases addItemsS <;> cases addPropsS <;> cases nt <;> rfl
  simp only [e, Schema.kids, Schema.base, Schema.props, Schema.addPropsS, Schema.depSchemas, List.all_append,
    wfL_eq_all, wfM_eq_all, all_toList, Bool.and_assoc]

/-- the two cases in the form of the conditional in `validate_eq`, `valid_eq` and their like -/
theorem wf_iff {cfg : Cfg} {known : String → Bool} {s : Schema} :
    wf cfg known s = true ↔
      ((s.base.ref != "") = true ∧ known s.base.ref = true) ∨
      (¬ (s.base.ref != "") = true ∧ nodeWf cfg s.base s.props s.addPropsS s.depSchemas = true
        ∧ ∀ t ∈ s.kids, wf cfg known t = true) := by
  rw [wf_eq]
  simp only [Bool.or_eq_true, Bool.and_eq_true, List.all_eq_true, bne_iff_ne, beq_iff_eq, ne_eq, Decidable.not_not,
    and_assoc]

@[elab_as_elim]
theorem wf_induct {cfg : Cfg} {known : String → Bool} {motive : Schema → Prop}
    (ref : ∀ s, (s.base.ref != "") = true → known s.base.ref = true → motive s)
    (node : ∀ s, ¬ (s.base.ref != "") = true → nodeWf cfg s.base s.props s.addPropsS s.depSchemas = true →
      (∀ t ∈ s.kids, wf cfg known t = true) → (∀ t ∈ s.kids, motive t) → motive s)
    (s : Schema) (h : wf cfg known s = true) : motive s := by
  induction s using Schema.induct with
  | step s ih =>
    obtain ⟨href, hk⟩ | ⟨href, hn, hkids⟩ := wf_iff.mp h
    · exact ref s href hk
    · exact node s href hn hkids fun t ht => ih t ht (hkids t ht)

theorem wf_mono {cfg cfg' : Cfg} (h1 : cfg'.formatBypassesType = true → cfg.formatBypassesType = true)
    (h2 : cfg'.requiredByDefault = true → cfg.requiredByDefault = true) (known : String → Bool) (s : Schema)
    (h : wf cfg known s = true) : wf cfg' known s = true := by
  refine wf_induct (fun s href hk => wf_iff.mpr (.inl ⟨href, hk⟩))
    (fun s href hn _ ih => wf_iff.mpr (.inr ⟨href, ?_, ih⟩)) s h
  obtain ⟨n1, n2, n3, n4, n5, n6, n7⟩ := nodeWf_iff.mp hn
  exact nodeWf_iff.mpr ⟨n1, fun hc => n2 (h1 hc), n3, n4, fun hc => n5 (h2 hc), n6, n7⟩

theorem wf_refsKnown (cfg : Cfg) (known : String → Bool) (s : Schema) (h : wf cfg known s = true) :
    refsKnown known s = true := by
  refine wf_induct (fun s href hk => ?_) (fun s href _ _ ih => ?_) s h
  · rw [refsKnown_eq, if_pos href]; exact hk
  · rw [refsKnown_eq, if_neg href]; exact List.all_eq_true.mpr ih

theorem validL_eq_map (O : Oracles) (r : String → JVal → Bool) (l : List Schema) : validL O r l = l.map (valid O r) :=
  eq_map_of_rec rfl (fun _ _ => rfl) l

theorem validM_eq_map (O : Oracles) (r : String → JVal → Bool) (l : List (String × Schema)) :
    validM O r l = l.map fun p => (p.1, valid O r p.2) :=
  eq_map_of_rec rfl (fun _ _ => rfl) l

theorem akeys_validM (O : Oracles) (r : String → JVal → Bool) (l : List (String × Schema)) : akeys (validM O r l) = akeys l := by
  simp only [validM_eq_map, akeys, List.map_map, Function.comp_def]

def skidsOf (O : Oracles) (rS : String → JVal → Bool) : Schema → SKids
  | .mk _ itemsS itemsT addItemsS props patProps addPropsS depSchemas allOf anyOf oneOf nt =>
    { itemsS := itemsS.map (valid O rS)
      itemsT := validL O rS itemsT
      addItemsS := addItemsS.map (valid O rS)
      props := validM O rS props
      patProps := validM O rS patProps
      addPropsS := addPropsS.map (valid O rS)
      depSchemas := validM O rS depSchemas
      allOf := validL O rS allOf
      anyOf := validL O rS anyOf
      oneOf := validL O rS oneOf
      not := nt.map (valid O rS) }

theorem valid_eq (O : Oracles) (rS : String → JVal → Bool) (s : Schema) (v : JVal) :
    valid O rS s v = if s.base.ref != "" then rS s.base.ref v else nodeValid O s.base (skidsOf O rS s) v := by
  obtain ⟨_, itemsS, _, addItemsS, _, _, addPropsS, _, _, _, _, nt⟩ := s
  cases itemsS <;> cases addItemsS <;> cases addPropsS <;> cases nt <;> rfl

theorem isSome_match {α β : Type} (o : Option α) (f : α → β) :
    (match o with | some s => some (f s) | none => none).isSome = o.isSome := by
  cases o <;> rfl

section
variable (cfg : Cfg) (O : Oracles)
  (hbound : cfg.addlItemsBound = false)
  (hO : cfg.floatTolerance = true → OExact O)
  (rI : String → V) (rS : String → JVal → Bool) (known : String → Bool)
  (hr : ∀ name, known name = true → VAgree (AdmP cfg) (rI name) (rS name))
  /- with the IMPORTANT!-message switch open: what a reference resolves to carries no such message on a quiet instance -/
  (hleak : cfg.leaksImportant = true → ∀ name, NoImp.LV (rI name))

section node
variable {P : JVal → Prop} {cfg} {O} {rI} {rS}

theorem all2_validateL (l : List Schema) (h : ∀ t ∈ l, VAgree P (validate cfg {} O rI t) (valid O rS t)) :
    ListAgree P (validateL cfg {} O rI l) (validL O rS l) := by
  rw [validateL_eq_map, validL_eq_map]
  exact all2_map _ _ l h

theorem all2_validateM (l : List (String × Schema)) (h : ∀ p ∈ l, VAgree P (validate cfg {} O rI p.2) (valid O rS p.2)) :
    MapAgree P (validateM cfg {} O rI l) (validM O rS l) := by
  rw [validateM_eq_map, validM_eq_map]
  exact all2_map _ _ l fun p hp => ⟨rfl, h p hp⟩

theorem kidsAgree_of_kids (s : Schema) (h : ∀ t ∈ s.kids, VAgree P (validate cfg {} O rI t) (valid O rS t)) :
    KidsAgree P (ikidsOf cfg {} O rI s) (skidsOf O rS s) := by
  obtain ⟨_, itemsS, itemsT, addItemsS, props, patProps, addPropsS, depSchemas, allOf, anyOf, oneOf, nt⟩ := s
  obtain ⟨h1, h2, h3, h4, h5, h6, h7, h8, h9, h10, h11⟩ := Schema.forall_mem_kids.mp h
  exact ⟨opt2_map _ _ _ h1, all2_validateL _ h2, opt2_map _ _ _ h3, all2_validateM _ h4, all2_validateM _ h5,
    opt2_map _ _ _ h6, all2_validateM _ h7, all2_validateL _ h8, all2_validateL _ h9, all2_validateL _ h10,
    opt2_map _ _ _ h11⟩

include hleak hbound hO

theorem nodeWF_of_nodeWf (s : Schema) (hn : nodeWf cfg s.base s.props s.addPropsS s.depSchemas = true) :
    NodeWF cfg O s.base (defaultsOf s.props) (ikidsOf cfg {} O rI s) (skidsOf O rS s) := by
  obtain ⟨n1, n2, n3, n4, n5, n6, n7⟩ := nodeWf_iff.mp hn
  exact {
    keep := by
      intro path v hv f hf
      cases hc : cfg.leaksImportant with
      | false => exact keepRelevant_off cfg hc _
      | true =>
        have hk := ikidsOf_all cfg {} O rI s fun t _ => NoImp.validate_loc cfg O rI (hleak hc) t
        exact NoImp.keepRelevant_loc cfg
          (hf.elim (hk.anyOf f) (·.elim (hk.oneOf f) (hk.allOf f)) path v (adm_quiet cfg hc v hv))
    bound := hbound
    float := hO
    fmtTypes := n1
    bypass := n2
    mulPos := n3
    nullable := n4
    req := n5
    addProps := by
      obtain ⟨_, _, _, _, _, _, addPropsS, _, _, _, _, _⟩ := s
      exact n6.trans (by cases addPropsS <;> rfl)
    depsNodup := by
      obtain ⟨_, _, _, _, _, _, _, depSchemas, _, _, _, _⟩ := s
      exact (akeys_validM O rS depSchemas).symm ▸ n7 }

end node

include hleak hbound hO hr

theorem validate_agree (s : Schema) (hs : wf cfg known s = true) :
    VAgree (AdmP cfg) (fun p x => validate cfg {} O rI s p x) (fun x => valid O rS s x) := by
  refine wf_induct (fun s href hk path v hv => ?_) (fun s href hn _ ih path v hv => ?_) s hs
  · simp only [validate_eq, valid_eq, if_pos href]
    exact hr _ hk path v hv
  · simp only [validate_eq, valid_eq, if_neg href]
    exact node_verdict cfg O _ _ _ _ (kidsAgree_of_kids s ih) (nodeWF_of_nodeWf hbound hO hleak s hn) path v hv

theorem validateL_agree (ss : List Schema) (hs : wfL cfg known ss = true) :
    ListAgree (AdmP cfg) (validateL cfg {} O rI ss) (validL O rS ss) := by
  rw [wfL_eq_all, List.all_eq_true] at hs
  exact all2_validateL ss fun s h => validate_agree cfg O hbound hO rI rS known hr hleak s (hs s h)

theorem validateM_agree (ps : List (String × Schema)) (hs : wfM cfg known ps = true) :
    MapAgree (AdmP cfg) (validateM cfg {} O rI ps) (validM O rS ps) := by
  rw [wfM_eq_all, List.all_eq_true] at hs
  exact all2_validateM ps fun p h =>
    validate_agree cfg O hbound hO rI rS known hr hleak p.2 (hs _ (List.mem_map_of_mem h))
end

def DefsWf (cfg : Cfg) (defs : String → Option Schema) : Prop :=
  ∀ name t, defs name = some t → wf cfg (fun n => (defs n).isSome) t = true

section fuel
variable (cfg : Cfg) (O : Oracles) (defs : String → Option Schema)

/-- agreement at `n` makes the resolvers that `validateF` and `validF` use at `n + 1` agree on every name that has a
    definition -/
theorem refF_agree (hdefs : DefsWf cfg defs) (n : Nat)
    (h : ∀ t, wf cfg (fun n => (defs n).isSome) t = true →
      VAgree (AdmP cfg) (validateF cfg {} O defs n t) (validF O defs n t))
    (name : String) (hk : (defs name).isSome = true) :
    VAgree (AdmP cfg) (fun p x => match defs name with | some t => validateF cfg {} O defs n t p x | none => panic)
      (fun x => match defs name with | some t => validF O defs n t x | none => false) := by
  obtain ⟨t, hd⟩ := Option.isSome_iff_exists.mp hk
  simpa only [hd] using h t (hdefs name t hd)

theorem refF_loc (n : Nat) (name : String) :
    NoImp.LV (fun p x => match defs name with | some t => validateF cfg {} O defs n t p x | none => panic) := by
  cases defs name with
  | none => exact fun _ _ _ => NoImp.loc_nil rfl rfl
  | some t => exact NoImp.validateF_loc cfg O defs n t

end fuel

theorem validateF_agree (cfg : Cfg) (O : Oracles)
    (hbound : cfg.addlItemsBound = false)
    (hO : cfg.floatTolerance = true → OExact O)
    (defs : String → Option Schema) (hdefs : DefsWf cfg defs) (n : Nat) :
    ∀ s, wf cfg (fun n => (defs n).isSome) s = true →
      VAgree (AdmP cfg) (validateF cfg {} O defs n s) (validF O defs n s) := by
  induction n with
  | zero =>
    -- out of fuel both sides refuse every reference
    exact validate_agree cfg O hbound hO _ _ (fun n => (defs n).isSome)
      (fun _ _ _ _ _ => ⟨rfl, rfl⟩) (fun _ _ p _ _ => NoImp.loc_sErr p eFuel rfl)
  | succ n ih =>
    exact validate_agree cfg O hbound hO _ _ (fun n => (defs n).isSome)
      (refF_agree cfg O defs hdefs n ih) (fun _ => refF_loc cfg O defs n)

end VM
