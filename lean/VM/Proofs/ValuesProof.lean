/-
  C13 — the native numeric helpers of values.go against exact comparison and divisibility on `Rat`: the six regenerated
  comparison functions have one shape (`exclCode_iff`); on an integral value and bound every carrier decides like the
  specification (`nativeMax_intCast`, `nativeMin_intCast`, `multipleOfInt_iff`, `nativeMulInt_uint_eq_int`).
-/
import VM.Impl.Values
namespace VM.Values
open Generated

/-! bridge lemmas: the regenerated definitions say what we expect them to say -/

/-- the one shape of the six comparison helpers -/
theorem exclCode_iff (e : Bool) {gt ge eq : Prop} [Decidable gt] [Decidable ge] [Decidable eq] (h : ge ↔ gt ∨ eq) :
    ((if ((!e && decide gt) || (e && decide ge)) then 1 else 0 : Nat) != 0) = (decide gt || (e && decide eq)) := by
  rw [decide_eq_decide.mpr h, Bool.decide_or]
  cases e <;> cases decide gt <;> cases decide eq <;> rfl

theorem maximumInt_iff (d m : Int) (e : Bool) : (MaximumInt d m e != 0) = (decide (d > m) || (e && decide (d = m))) :=
  exclCode_iff e (by omega)
theorem minimumInt_iff (d m : Int) (e : Bool) : (MinimumInt d m e != 0) = (decide (d < m) || (e && decide (d = m))) :=
  exclCode_iff e (by omega)
theorem maximumUint_iff (d m : Nat) (e : Bool) : (MaximumUint d m e != 0) = (decide (d > m) || (e && decide (d = m))) :=
  exclCode_iff e (by omega)
theorem minimumUint_iff (d m : Nat) (e : Bool) : (MinimumUint d m e != 0) = (decide (d < m) || (e && decide (d = m))) :=
  exclCode_iff e (by omega)
theorem maximum_iff (d m : Rat) (e : Bool) : (Maximum d m e != 0) = specMax d m e :=
  exclCode_iff e (Rat.le_iff_lt_or_eq.trans (or_congr Iff.rfl eq_comm))
theorem minimum_iff (d m : Rat) (e : Bool) : (Minimum d m e != 0) = specMin d m e :=
  exclCode_iff e Rat.le_iff_lt_or_eq

theorem truncToInt_intCast (a : Int) : truncToInt (a : Rat) = a := by
  simp only [truncToInt, Rat.num_intCast, Rat.den_intCast, Int.cast_ofNat_Int, Int.tdiv_one]

theorem specMax_intCast (a b : Int) (e : Bool) :
    specMax (a : Rat) (b : Rat) e = (decide (a > b) || (e && decide (a = b))) := by
  simp only [specMax, gt_iff_lt, Rat.intCast_lt_intCast, Rat.intCast_inj]

theorem specMin_intCast (a b : Int) (e : Bool) :
    specMin (a : Rat) (b : Rat) e = (decide (a < b) || (e && decide (a = b))) := by
  simp only [specMin, Rat.intCast_lt_intCast, Rat.intCast_inj]

theorem nativeMax_intCast (k : NumKind) (a b : Int) (e : Bool) (hk : ∀ n, k = .uint n → 0 ≤ a) :
    nativeMax k (a : Rat) (b : Rat) e = specMax (a : Rat) (b : Rat) e := by
  cases k with
  | int n => simp only [nativeMax, truncToInt_intCast, maximumInt_iff, specMax_intCast]
  | float n => exact maximum_iff _ _ e
  | uint n =>
    obtain ⟨a, rfl⟩ := Int.eq_ofNat_of_zero_le (hk n rfl)
    simp only [nativeMax, truncToInt_intCast, maximumUint_iff, specMax_intCast, Rat.intCast_neg_iff, Int.toNat_natCast]
    split
    · rw [decide_eq_true (show (a : Int) > b by omega), Bool.true_or]
    · obtain ⟨b, rfl⟩ := Int.eq_ofNat_of_zero_le (Int.not_lt.mp ‹_›)
      simp only [Int.toNat_natCast, gt_iff_lt, Int.ofNat_lt, Int.natCast_inj]

theorem nativeMin_intCast (k : NumKind) (a b : Int) (e : Bool) (hk : ∀ n, k = .uint n → 0 ≤ a) :
    nativeMin k (a : Rat) (b : Rat) e = specMin (a : Rat) (b : Rat) e := by
  cases k with
  | int n => simp only [nativeMin, truncToInt_intCast, minimumInt_iff, specMin_intCast]
  | float n => exact minimum_iff _ _ e
  | uint n =>
    obtain ⟨a, rfl⟩ := Int.eq_ofNat_of_zero_le (hk n rfl)
    simp only [nativeMin, truncToInt_intCast, minimumUint_iff, specMin_intCast, Rat.intCast_neg_iff, Int.toNat_natCast]
    split
    · rw [decide_eq_false (show ¬ (a : Int) < b by omega), decide_eq_false (show ¬ (a : Int) = b by omega), Bool.and_false,
        Bool.or_false]
    · obtain ⟨b, rfl⟩ := Int.eq_ofNat_of_zero_le (Int.not_lt.mp ‹_›)
      simp only [Int.toNat_natCast, Int.ofNat_lt, Int.natCast_inj]

theorem isInt_intCast (a : Int) : (a : Rat).isInt = true := by
  simp only [Rat.isInt, Rat.den_intCast, BEq.rfl]

theorem isInt_eq_intCast {x : Rat} (h : x.isInt = true) : x = ((x.num : Int) : Rat) := by
  apply Rat.ext
  · simp only [Rat.num_intCast]
  · have : x.den = 1 := by simpa only [Rat.isInt, beq_iff_eq] using h
    simp only [this, Rat.den_intCast]

theorem div_isInt_iff_dvd (a b : Int) (hb : 0 < b) : ((a : Rat) / (b : Rat)).isInt = decide (b ∣ a) := by
  have hb0 : (b : Rat) ≠ 0 := fun h => by have := Rat.intCast_eq_zero_iff.mp h; omega
  by_cases hd : b ∣ a
  · obtain ⟨c, rfl⟩ := hd
    rw [Rat.intCast_mul, Rat.mul_comm, Rat.mul_div_cancel hb0, isInt_intCast, decide_eq_true ⟨c, rfl⟩]
  · rw [decide_eq_false hd, Bool.eq_false_iff]
    intro h
    have e : (a : Rat) = ((((a : Rat) / (b : Rat)).num * b : Int) : Rat) := by
      rw [Rat.intCast_mul, ← isInt_eq_intCast h, Rat.div_mul_cancel hb0]
    exact hd ⟨_, (Rat.intCast_inj.mp e).trans (Int.mul_comm _ _)⟩

theorem multipleOfInt_iff (a b : Int) :
    mulResOfCode (MultipleOfInt a b) = if b ≤ 0 then .notPositive else if b ∣ a then .ok else .notMultiple := by
  have h : Int.tdiv a b * b ≠ a ↔ ¬ b ∣ a :=
    ⟨fun h hd => h (Int.tdiv_mul_cancel hd), fun h e => h ⟨_, e.symm.trans (Int.mul_comm _ _)⟩⟩
  rw [MultipleOfInt, apply_ite mulResOfCode, apply_ite mulResOfCode]
  simp only [decide_eq_true_eq, h, ite_not]
  rfl

theorem specMul_intCast (a b : Int) :
    specMul (a : Rat) (b : Rat) = if b ≤ 0 then .notPositive else if b ∣ a then .ok else .notMultiple := by
  simp only [specMul, Rat.intCast_nonpos]
  split
  · rfl
  · simp only [div_isInt_iff_dvd a b (by omega), decide_eq_true_eq]

theorem native_int_mul_exact (n : Nat) (a b : Int) :
    nativeMulInt (.int n) (a : Rat) (b : Rat) = some (specMul (a : Rat) (b : Rat)) := by
  simp only [nativeMulInt, truncToInt_intCast, specMul_intCast, multipleOfInt_iff]

/-- `hb`: a negative factor is converted with `uint64()` and wraps (the listed deviation) -/
theorem nativeMulInt_uint_eq_int (n m : Nat) (a : Nat) (b : Int) (hb : 0 < b) :
    nativeMulInt (.uint m) ((a : Int) : Rat) (b : Rat) = nativeMulInt (.int n) ((a : Int) : Rat) (b : Rat) := by
  obtain ⟨c, rfl⟩ := Int.eq_ofNat_of_zero_le (Int.le_of_lt hb)
  have hgo : goUint64 ((c : Int) : Rat) = c := by
    simp only [goUint64, truncToInt_intCast, Int.toNat_natCast, if_neg (Int.not_lt.mpr (Int.natCast_nonneg c))]
  simp only [nativeMulInt, truncToInt_intCast, Int.toNat_natCast, hgo, MultipleOfUint, MultipleOfInt, ← Int.ofNat_tdiv,
    ← Int.natCast_mul, Int.natCast_inj, ne_eq]
  rw [decide_eq_decide.mpr (show c = 0 ↔ (c : Int) ≤ 0 by omega)]

theorem native_uint_mul_exact (n : Nat) (a : Nat) (b : Int) (hb : 0 < b) :
    nativeMulInt (.uint n) ((a : Int) : Rat) (b : Rat) = some (specMul ((a : Int) : Rat) (b : Rat)) :=
  (nativeMulInt_uint_eq_int 0 n a b hb).trans (native_int_mul_exact 0 a b)

end VM.Values
