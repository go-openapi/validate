/-
  C01, the one switch that the agreement proof does not thread through: IMPORTANT!-tagged messages of failed anyOf / oneOf /
  allOf branches are kept (`leaksImportant`). Such a message is only ever produced for an undeclared member called `headers`
  that holds objects with a string `$ref` (object_validator.go:253-302). On an instance without such a member (`hdrQuiet`)
  no result of the validator tree carries an important message.
-/
import VM.Proofs.Located
namespace VM.NoImp
open VM Impl

mutual
/-- no object anywhere in the instance has a member called `headers` for which the code would add its IMPORTANT! message -/
def hdrQuiet : JVal → Bool
  | .arr xs => hdrQuietL xs
  | .obj kvs => hdrQuietM kvs
  | _ => true
def hdrQuietL : List JVal → Bool
  | [] => true
  | x :: xs => hdrQuiet x && hdrQuietL xs
def hdrQuietM : List (String × JVal) → Bool
  | [] => true
  | (k, x) :: rest => (k != "headers" || (headerRefErrors "" x).all Option.isNone) && hdrQuiet x && hdrQuietM rest
end

theorem hdrQuietL_mem (xs : List JVal) (h : hdrQuietL xs = true) : ∀ x ∈ xs, hdrQuiet x = true :=
  List.all_eq_true.mp ((eq_all_of_rec (f := hdrQuiet) rfl (fun _ _ => rfl) xs).symm.trans h)

theorem hdrQuietM_mem (kvs : List (String × JVal)) (h : hdrQuietM kvs = true) :
    ∀ kv ∈ kvs, hdrQuiet kv.2 = true ∧ (kv.1 = "headers" → (headerRefErrors "" kv.2).all Option.isNone = true) := by
  induction kvs with
  | nil => intro kv hkv; cases hkv
  | cons a rest ih =>
    obtain ⟨k, x⟩ := a
    simp only [hdrQuietM, Bool.and_eq_true, Bool.or_eq_true, bne_iff_ne, ne_eq] at h
    intro kv hkv
    rcases List.mem_cons.mp hkv with rfl | hkv
    · exact ⟨h.1.2, fun hk => h.1.1.resolve_left (absurd hk)⟩
    · exact ih h.2 kv hkv

def Under (_path : String) (m : Msg) : Prop := m.important = false

theorem under_mono {p q : String} (_h : pre p q) {m : Msg} (hm : Under q m) : Under p m := hm

def Loc (path : String) (r : Res) : Prop := (∀ m ∈ r.errors, Under path m) ∧ (∀ m ∈ r.warnings, Under path m)

theorem loc_nil {p : String} {r : Res} (he : r.errors = []) (hw : r.warnings = []) : Loc p r :=
  ⟨fun _ h => (by rw [he] at h; cases h), fun _ h => (by rw [hw] at h; cases h)⟩

theorem loc_sErr (p : String) (e : Msg) (h : Under p e) : Loc p (sErr e) :=
  ⟨fun m hm => by simp only [sErr, List.mem_singleton] at hm; exact hm ▸ h, fun _ hm => (nomatch hm)⟩

theorem keepRelevant_loc (cfg : Cfg) {path : String} {r : Res} (h : Loc path r) : keepRelevant cfg r = {} := by
  have e (l : List Msg) (hl : ∀ m ∈ l, Under path m) : l.filter isImportant = [] :=
    List.filter_eq_nil_iff.mpr fun m hm hi => Bool.false_ne_true ((hl m hm : m.important = false).symm.trans hi)
  rw [keepRelevant, e _ h.1, e _ h.2]
  exact ite_self _

def LV (f : V) : Prop := ∀ p x, hdrQuiet x = true → Loc p (f p x)

/-- whether a `headers` member gets the extra messages does not depend on the path they would carry -/
theorem headerRefErrors_none (path : String) (x : JVal) (hq : (headerRefErrors "" x).all Option.isNone = true) :
    ∀ m, some m ∉ headerRefErrors path x := fun m hm => by
  obtain ⟨hs, hk, h, ref, hx, hmem, hl, _⟩ := mem_headerRefErrors.mp hm
  exact nomatch List.all_eq_true.mp hq _ (mem_headerRefErrors.mpr ⟨hs, hk, h, ref, hx, hmem, hl, rfl⟩)

/-- "No important message" as an invariant of results, on quiet instances: the only important message of the model is
    the one `hdrQuiet` excludes, and what is kept of a failed branch has the tag stripped. -/
theorem noImpInv (cfg : Cfg) : TreeInv cfg {} Loc Under (fun x => hdrQuiet x = true) where
  empty _ := loc_nil rfl rfl
  inc h := h
  mergeOne h1 h2 :=
    ⟨fun m hm => ((Res.mem_mergeOne_errors _ _ m).mp hm).elim (h1.1 m) (h2.1 m),
     fun m hm => ((Res.mem_mergeOne_warnings _ _ m).mp hm).elim (h1.2 m) (h2.2 m)⟩
  addErrors _ h1 h2 := ⟨forall_mem_addMsgs h1.1 h2, h1.2⟩
  absorb h _ := h
  keep _ := by
    unfold keepRelevant
    split
    · constructor <;> (intro m hm; obtain ⟨m0, _, rfl⟩ := List.mem_map.mp hm; rfl)
    · exact loc_nil rfl rfl
  mono _ h := h
  msg _ h := h
  hdr hq hmem m hm := absurd hm (headerRefErrors_none _ _ ((hdrQuietM_mem _ hq _ hmem).2 rfl) m)
  precheck _ h := h
  panic _ _ := loc_nil rfl rfl
  arr hq := hdrQuietL_mem _ hq
  obj hq kv hkv := (hdrQuietM_mem _ hq kv hkv).1

section
variable (cfg : Cfg) (O : Oracles) (r : String → V) (hr : ∀ name, LV (r name))
include hr

theorem validate_loc (s : Schema) : LV (validate cfg {} O r s) :=
  (noImpInv cfg).validate O r _ (fun name _ => hr name) s (refsKnown_true s)

theorem validateM_loc (l : List (String × Schema)) : ∀ nf ∈ validateM cfg {} O r l, LV nf.2 :=
  forall_mem_validateM cfg {} O r fun q _ => validate_loc cfg O r hr q.2
end

theorem validateF_loc (cfg : Cfg) (O : Oracles) (defs : String → Option Schema) (n : Nat) (s : Schema) :
    LV (validateF cfg {} O defs n s) :=
  (noImpInv cfg).validateF O defs _ (fun _ _ _ => refsKnown_true _)
    (fun _ _ _ _ => loc_nil rfl rfl) n s (refsKnown_true s)

end VM.NoImp
