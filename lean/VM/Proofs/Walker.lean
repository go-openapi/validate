/-
  The schema walker of the default and example validators as a composition of steps. A step is a function on walker
  states (`WSt`: the result so far, the visited set). `walk` enters a node unless the visited test cuts it off, judges
  the node's own value (`own`) and then runs eight steps in a row (`walk_eq`): the walk of an optional kid (`walkO`),
  of a list of kids (`walkL`, `walkM`, `walkA`), the node's pattern check (`patStep`). A fact about the walker is
  proved of each kind of step from the same fact about the kids, carried through the composition, and closed by
  induction along the walk (`walk_induct`).
-/
import VM.Impl.Defaults
import VM.Proofs.SchemaInd
namespace VM.Sw
open VM

theorem isVisited_repaired (p : String) (vis : List String) : isVisited DCfg.repaired p vis = false := rfl

theorem isVisited_false {c : DCfg} {path : String} {vis : List String} (h0 : suffixOverlap path = false)
    (h : c.exactVisited = true → path ∉ vis) : isVisited c path vis = false := by
  simp only [isVisited, h0, Bool.and_false, Bool.or_false, Bool.and_eq_false_imp]
  intro e; simpa using h e

/-- induction along the walk: of the kids only the seven slots the walker descends into (not the schema dependencies,
    `anyOf`, `oneOf`, `not`) -/
theorem walk_induct {motive : Schema → Prop}
    (step : ∀ s, (∀ t, s.itemsS = some t → motive t) → (∀ t ∈ s.itemsT, motive t) → (∀ t, s.addItemsS = some t → motive t) →
      (∀ p ∈ s.props, motive p.2) → (∀ p ∈ s.patProps, motive p.2) → (∀ t, s.addPropsS = some t → motive t) →
      (∀ t ∈ s.allOf, motive t) → motive s) (s : Schema) : motive s := by
  induction s using Schema.induct with
  | step s ih =>
    cases s
    obtain ⟨i1, i2, i3, i4, i5, i6, -, i7, -⟩ := Schema.forall_mem_kids.mp ih
    exact step _ i1 i2 i3 i4 i5 i6 i7

section
variable (c : DCfg) (J : Judges) (w : Which) (O : Oracles) (inn : String)

def own (s : Schema) (path : String) : Res :=
  match w.value s.base with
  | some v => mergeJ w {} (J.schema s (path ++ "." ++ w.suffix) v)
  | none => {}

def walkO (o : Option Schema) (path : String) (st : WSt) : WSt :=
  match o with
  | some s => thenOpt st (walk c J w O inn s path)
  | none => st

def patStep (b : SBase) (path : String) (st : WSt) : WSt :=
  (if patOK O b.pattern then st.1 else st.1.addErrors [some (mkMsg "invalidPatternIn" [path, inn, b.pattern])], st.2)

theorem walk_eq (s : Schema) (path : String) (vis : List String) :
    walk c J w O inn s path vis =
      if isVisited c path vis then (none, vis) else
        Prod.map some id (walkA c J w O inn s.allOf path 0 <| walkO c J w O inn s.addPropsS (path ++ ".additionalProperties")
          <| walkM c J w O inn s.patProps path <| walkM c J w O inn s.props path
          <| walkO c J w O inn s.addItemsS (path ++ ".additionalItems") <| patStep O inn s.base path
          <| walkL c J w O inn s.itemsT path 0 <| walkO c J w O inn s.itemsS (path ++ ".items." ++ w.suffix)
            (own J w s path, path :: vis)) := by
  -- Lean's own unfolding equation, affordable for `walk` (it is not for every definition over `Schema`: `noOverlap_eq`)
  cases s; exact walk.eq_def ..

end
end VM.Sw
