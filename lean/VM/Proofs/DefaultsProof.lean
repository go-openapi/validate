/-
  C07 — the default and example stages add no panic of their own (`valueStage_ok`): `Ok` (the panic flag is unset) is kept by
  every operation they combine results with, so by every step of the walker (`walk_ok`, along `walk_induct`) and every stage —
  provided the judges return normally, the schema judge on the schemas satisfying `Psch`.
-/
import VM.Proofs.Walker
import VM.Proofs.Lists
namespace VM.Sw
open VM

/-- the Go computation this result stands for did not panic -/
def Ok (r : Res) : Prop := r.panicked = false

/-- the judges return normally: the schema judge on the schemas satisfying `Psch` (e.g. "every reference resolves") -/
structure JOkOn (Psch : Schema → Prop) (J : Judges) : Prop where
  schema : ∀ s p v, Psch s → Ok (J.schema s p v)
  param : ∀ p v, Ok (J.param p v)
  header : ∀ h v, Ok (J.header h v)
  items : ∀ a b c d v, Ok (J.items a b c d v)

abbrev JOk (J : Judges) : Prop := JOkOn (fun _ => True) J

/-- `Psch` passes from a schema to the kids the walker descends into -/
def KidsClosed (Psch : Schema → Prop) : Prop :=
  ∀ b itemsS itemsT addItemsS props patProps addPropsS deps allOf anyOf oneOf nt,
    Psch (.mk b itemsS itemsT addItemsS props patProps addPropsS deps allOf anyOf oneOf nt) →
      (∀ s, itemsS = some s → Psch s) ∧ (∀ s ∈ itemsT, Psch s) ∧ (∀ s, addItemsS = some s → Psch s)
      ∧ (∀ p ∈ props, Psch p.2) ∧ (∀ p ∈ patProps, Psch p.2) ∧ (∀ s, addPropsS = some s → Psch s) ∧ (∀ s ∈ allOf, Psch s)

theorem kidsClosed_true : KidsClosed (fun _ => True) := by
  unfold KidsClosed; simp only [implies_true, and_self]

/-- the schemas the stages start their walks from -/
def ViewP (Psch : Schema → Prop) (v : View) : Prop :=
  (∀ o ∈ v.ops, (∀ p ∈ o.params, ∀ s, p.schema = some s → Psch s)
    ∧ (∀ rs, o.responses = some rs → ∀ r ∈ rs, ∀ s, r.schema = some s → Psch s))
  ∧ (∀ d ∈ v.defs, Psch d.2)

theorem viewP_true (v : View) : ViewP (fun _ => True) v := by
  unfold ViewP; simp only [implies_true, and_self]

theorem ok_empty : Ok ({} : Res) := rfl
theorem mergeOne_ok {r o : Res} (h1 : Ok r) (h2 : Ok o) : Ok (r.mergeOne o) := by
  show (r.panicked || o.panicked) = false
  rw [h1, h2]; rfl
theorem mergeAsWarningsOne_ok {r o : Res} (h1 : Ok r) (h2 : Ok o) : Ok (r.mergeAsWarningsOne o) :=
  mergeOne_ok h1 h2
theorem addErrors_ok {r : Res} {es : List (Option Msg)} (h : Ok r) : Ok (r.addErrors es) := h
theorem addWarnings_ok {r : Res} {es : List (Option Msg)} (h : Ok r) : Ok (r.addWarnings es) := h
theorem mergeJ_ok {w : Which} {r o : Res} (h1 : Ok r) (h2 : Ok o) : Ok (mergeJ w r o) := by
  cases w
  · exact mergeOne_ok h1 h2
  · exact mergeAsWarningsOne_ok h1 h2
theorem mergeOpt_ok {r : Res} {o : Option Res} (h1 : Ok r) (h2 : ∀ x, o = some x → Ok x) : Ok (mergeOpt r o) := by
  cases o with
  | none => exact h1
  | some x => exact mergeOne_ok h1 (h2 x rfl)
theorem thenOpt_ok {st : WSt} {f : List String → Option Res × List String} (h1 : Ok st.1)
    (h2 : ∀ r, (f st.2).1 = some r → Ok r) : Ok (thenOpt st f).1 :=
  mergeOpt_ok h1 h2
theorem judged_ok {w : Which} {o : Option JVal} {f : JVal → Res} (hf : ∀ v, Ok (f v)) :
    Ok (match o with | some v => mergeJ w {} (f v) | none => {}) := by
  cases o with
  | none => exact ok_empty
  | some v => exact mergeJ_ok ok_empty (hf v)
theorem report_ok {w : Which} {res red : Res} {tag : Msg} {b : Bool} (h1 : Ok res) (h2 : Ok red) : Ok (report w res tag red b) := by
  cases w
  · exact mergeOne_ok (addErrors_ok h1) h2
  · exact of_ite Ok (mergeAsWarningsOne_ok (addWarnings_ok h1) h2) (mergeOne_ok (addWarnings_ok h1) h2)
theorem reportIf_ok {w : Which} {res red : Res} {tag : Msg} {b : Bool} (h1 : Ok res) (h2 : Ok red) : Ok (reportIf w res tag red b) :=
  of_ite Ok (report_ok h1 h2) h1

section
variable (c : DCfg) (J : Judges) (w : Which) (O : Oracles) (inn : String)

def WalkOk (s : Schema) : Prop := ∀ path vis r, (walk c J w O inn s path vis).1 = some r → Ok r

variable {c J w O inn}

theorem walkO_ok {o : Option Schema} (ho : ∀ s, o = some s → WalkOk c J w O inn s) (path : String) {st : WSt}
    (h : Ok st.1) : Ok (walkO c J w O inn o path st).1 := by
  cases o with
  | none => exact h
  | some s => exact thenOpt_ok h (ho s rfl path st.2)

theorem walkL_ok_of {l : List Schema} (hl : ∀ s ∈ l, WalkOk c J w O inn s) (path : String) (i : Nat) {st : WSt}
    (h : Ok st.1) : Ok (walkL c J w O inn l path i st).1 := by
  induction l generalizing i st with
  | nil => exact h
  | cons s ss ih =>
    exact ih (fun x hx => hl x (List.mem_cons_of_mem _ hx)) _ (thenOpt_ok h (hl s List.mem_cons_self _ _))

theorem walkM_ok_of {l : List (String × Schema)} (hl : ∀ p ∈ l, WalkOk c J w O inn p.2) (path : String) {st : WSt}
    (h : Ok st.1) : Ok (walkM c J w O inn l path st).1 := by
  induction l generalizing st with
  | nil => exact h
  | cons p ps ih =>
    exact ih (fun x hx => hl x (List.mem_cons_of_mem _ hx)) (thenOpt_ok h (hl p List.mem_cons_self _ _))

theorem walkA_ok_of {l : List Schema} (hl : ∀ s ∈ l, WalkOk c J w O inn s) (path : String) (i : Nat) {st : WSt}
    (h : Ok st.1) : Ok (walkA c J w O inn l path i st).1 := by
  induction l generalizing i st with
  | nil => exact h
  | cons s ss ih =>
    exact ih (fun x hx => hl x (List.mem_cons_of_mem _ hx)) _ (thenOpt_ok h (hl s List.mem_cons_self _ _))

theorem patStep_ok (b : SBase) (path : String) {st : WSt} (h : Ok st.1) : Ok (patStep O inn b path st).1 :=
  of_ite Ok h (addErrors_ok h)

theorem itemsPattern_ok (l : ItemLevel) (path : String) {res : Res} (h : Ok res) : Ok (itemsPattern O inn l path res) :=
  of_ite Ok h (addErrors_ok h)

end

section
variable {J : Judges} {w : Which} {O : Oracles} {inn : String} {Psch : Schema → Prop} (hJ : JOkOn Psch J)
include hJ

theorem itemsHere_ok (rootFmt : String) (l : ItemLevel) (rest : List ItemLevel) (path : String) :
    Ok (itemsHere J w inn rootFmt l rest path) :=
  judged_ok fun _ => hJ.items _ _ _ _ _

theorem walkItems_ok (rootFmt : String) (chain : List ItemLevel) (path : String) :
    Ok (walkItems J w O inn rootFmt chain path) := by
  match chain with
  | [] => exact ok_empty
  | [l] => exact itemsPattern_ok l path (itemsHere_ok hJ rootFmt l [] path)
  | l :: l' :: rest =>
    exact itemsPattern_ok l path
      (mergeOne_ok (itemsHere_ok hJ rootFmt l _ path) (walkItems_ok rootFmt (l' :: rest) _))

theorem paramSimple_ok (res : Res) (p : Param) (h : Ok res) : Ok (paramSimple J w res p) := by
  unfold paramSimple; split
  · exact reportIf_ok h (hJ.param _ _)
  · exact h

theorem paramItems_ok (res : Res) (p : Param) (h : Ok res) : Ok (paramItems J w O res p) := by
  unfold paramItems; split
  · exact h
  · exact reportIf_ok h (walkItems_ok hJ _ _ _)

theorem headerStage_ok (opId : String) (r : Response) (res : Res) (hd : Header) (h : Ok res) :
    Ok (headerStage J w O opId r res hd) := by
  have h1 : Ok (headerSimple J w opId r res hd) := by
    unfold headerSimple; split
    · exact reportIf_ok h (hJ.header _ _)
    · exact h
  have h2 : Ok (headerItems J w O opId r (headerSimple J w opId r res hd) hd) := by
    unfold headerItems; split
    · exact h1
    · exact reportIf_ok h1 (walkItems_ok hJ _ _ _)
  exact of_ite Ok h2 (addErrors_ok h2)

theorem respExamples_ok (o : Op) (r : Response) (hr : ∀ s, r.schema = some s → Psch s) (res : Res) (h : Ok res) :
    Ok (respExamples J w o r res) := by
  unfold respExamples; split
  · split
    · rename_i s hs
      split
      · exact mergeAsWarningsOne_ok h (hJ.schema _ _ _ (hr s hs))
      · exact addWarnings_ok h
    · exact addWarnings_ok h
  · exact h

end

theorem paramWarn_ok (w : Which) (res : Res) (p : Param) (h : Ok res) : Ok (paramWarn w res p) :=
  of_ite Ok (addWarnings_ok h) h

section
variable (c : DCfg) (J : Judges) (w : Which) (O : Oracles) (inn : String) (Psch : Schema → Prop) (hcl : KidsClosed Psch)
  (hJ : JOkOn Psch J)
include hJ hcl

theorem walk_ok (s : Schema) (hs : Psch s) : WalkOk c J w O inn s := by
  induction s using walk_induct with
  | step s i1 i2 i3 i4 i5 i6 i7 =>
    intro path vis r h
    rw [walk_eq] at h
    split at h
    · cases h
    · cases h
      have h0 : Ok (own J w s path) := judged_ok fun _ => hJ.schema _ _ _ hs
      cases s
      obtain ⟨k1, k2, k3, k4, k5, k6, k7⟩ := hcl _ _ _ _ _ _ _ _ _ _ _ _ hs
      exact walkA_ok_of (fun t ht => i7 t ht (k7 t ht)) _ _ <| walkO_ok (fun t ht => i6 t ht (k6 t ht)) _
        <| walkM_ok_of (fun t ht => i5 t ht (k5 t ht)) _ <| walkM_ok_of (fun t ht => i4 t ht (k4 t ht)) _
        <| walkO_ok (fun t ht => i3 t ht (k3 t ht)) _ <| patStep_ok _ path
        <| walkL_ok_of (fun t ht => i2 t ht (k2 t ht)) _ _ <| walkO_ok (fun t ht => i1 t ht (k1 t ht)) _ h0

theorem walkL_ok (l : List Schema) (hl : ∀ s ∈ l, Psch s) (path : String) (i : Nat) (st : WSt) (h : Ok st.1) :
    Ok (walkL c J w O inn l path i st).1 :=
  walkL_ok_of (fun s hs => walk_ok c J w O inn Psch hcl hJ s (hl s hs)) path i h
theorem walkM_ok (l : List (String × Schema)) (hl : ∀ p ∈ l, Psch p.2) (path : String) (st : WSt) (h : Ok st.1) :
    Ok (walkM c J w O inn l path st).1 :=
  walkM_ok_of (fun p hp => walk_ok c J w O inn Psch hcl hJ p.2 (hl p hp)) path h
theorem walkA_ok (l : List Schema) (hl : ∀ s ∈ l, Psch s) (path : String) (i : Nat) (st : WSt) (h : Ok st.1) :
    Ok (walkA c J w O inn l path i st).1 :=
  walkA_ok_of (fun s hs => walk_ok c J w O inn Psch hcl hJ s (hl s hs)) path i h

end

section
variable {c : DCfg} {J : Judges} {w : Which} {O : Oracles} {Psch : Schema → Prop} (hcl : KidsClosed Psch) (hJ : JOkOn Psch J)
include hJ hcl

theorem paramSchema_ok (res : Res) (p : Param) (hp : ∀ s, p.schema = some s → Psch s) (h : Ok res) :
    Ok (paramSchema c J w O res p) := by
  unfold paramSchema; split
  · split
    · exact reportIf_ok h (walk_ok c J w O p.loc Psch hcl hJ _ (hp _ ‹_›) _ _ _ ‹_›)
    · exact h
  · exact h

theorem paramStage_ok (res : Res) (p : Param) (hp : ∀ s, p.schema = some s → Psch s) (h : Ok res) :
    Ok (paramStage c J w O res p) :=
  paramSchema_ok hcl hJ _ p hp (paramItems_ok hJ _ p (paramSimple_ok hJ _ p (paramWarn_ok w res p h)))

theorem respSchema_ok (o : Op) (r : Response) (hr : ∀ s, r.schema = some s → Psch s) (res : Res) (h : Ok res) :
    Ok (respSchema c J w O o r res) := by
  unfold respSchema; split
  · split
    · exact reportIf_ok h (walk_ok c J w O "response" Psch hcl hJ _ (hr _ ‹_›) _ _ _ ‹_›)
    · exact h
  · exact h

theorem responseStage_ok (o : Op) (r : Response) (hr : ∀ s, r.schema = some s → Psch s) : Ok (responseStage c J w O o r) :=
  respExamples_ok hJ o r hr _ (respSchema_ok hcl hJ o r hr _
    (List.foldlRecOn _ _ ok_empty fun res h hd _ => headerStage_ok hJ o.id r res hd h))

theorem opStage_ok (res : Res) (o : Op) (hp : ∀ p ∈ o.params, ∀ s, p.schema = some s → Psch s)
    (hr : ∀ rs, o.responses = some rs → ∀ r ∈ rs, ∀ s, r.schema = some s → Psch s) (h : Ok res) : Ok (opStage c J w O res o) := by
  unfold opStage opResponses
  have h1 : Ok (o.params.foldl (paramStage c J w O) res) :=
    List.foldlRecOn _ _ h fun r hr' p hpm => paramStage_ok hcl hJ r p (hp p hpm) hr'
  split
  · rename_i rs hrs
    exact List.foldlRecOn _ _ h1 fun acc hacc r hrm => mergeOne_ok hacc (responseStage_ok hcl hJ o r (hr rs hrs r hrm))
  · exact of_ite Ok (addErrors_ok h1) h1

theorem defsStage_ok (defs : List (String × Schema)) (hd : ∀ d ∈ defs, Psch d.2) (res : Res) (vis : List String) (h : Ok res) :
    Ok (defsStage c J w O defs res vis) := by
  induction defs generalizing res vis with
  | nil => exact h
  | cons d rest ih =>
    exact ih (fun x hx => hd x (List.mem_cons_of_mem _ hx)) _ _
      (mergeOpt_ok h (walk_ok c J w O "body" Psch hcl hJ d.2 (hd d List.mem_cons_self) _ _))

end

theorem valueStage_ok (c : DCfg) (J : Judges) (w : Which) (O : Oracles) (Psch : Schema → Prop) (hcl : KidsClosed Psch)
    (hJ : JOkOn Psch J) (v : View) (hv : ViewP Psch v) : Ok (valueStage c J w O v) :=
  defsStage_ok hcl hJ _ hv.2 _ _
    (List.foldlRecOn _ _ ok_empty fun r hr o ho => opStage_ok hcl hJ r o (hv.1 o ho).1 (hv.1 o ho).2 hr)

end VM.Sw
