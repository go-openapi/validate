/-
  The vocabulary of the C01 theorem: the schemas on which the model of the validator tree is claimed to agree with
  draft 4 (`wf`), node by node (`nodeWf`). A Boolean function of the schema alone, so that it can be evaluated on a
  closed schema (the Swagger schema, `Proofs/SwaggerTable.lean`) without the proofs about it.
-/
import VM.Impl.Schema
namespace VM
open Impl

/-- syntactic conditions of one node: the C01 vocabulary plus, for every deviation switch that
    is still open in `cfg`, the condition under which that deviation cannot show -/
def nodeWf (cfg : Cfg) (b : SBase) (props : List (String × Schema)) (addPropsS : Option Schema)
    (depSchemas : List (String × Schema)) : Bool :=
  (b.format == "" || !b.types.isEmpty)
  && (!cfg.formatBypassesType || b.format == "" || b.types.contains "number" || b.types.contains "integer")
  && (match b.multipleOf with | some m => decide (0 < m) | none => true)
  && !b.nullable
  && (!cfg.requiredByDefault || b.required.all (fun n => !(defaultsOf props).contains n))
  && ((b.addProps == .schema) == addPropsS.isSome)
  && decide ((akeys depSchemas ++ akeys b.depProps).Nodup)

mutual
def wf (cfg : Cfg) (known : String → Bool) : Schema → Bool
  | .mk b itemsS itemsT addItemsS props patProps addPropsS depSchemas allOf anyOf oneOf not =>
    (b.ref != "" && known b.ref) ||
    (b.ref == "" && nodeWf cfg b props addPropsS depSchemas
      && (match itemsS with | some s => wf cfg known s | none => true)
      && wfL cfg known itemsT
      && (match addItemsS with | some s => wf cfg known s | none => true)
      && wfM cfg known props && wfM cfg known patProps
      && (match addPropsS with | some s => wf cfg known s | none => true)
      && wfM cfg known depSchemas
      && wfL cfg known allOf && wfL cfg known anyOf && wfL cfg known oneOf
      && (match not with | some s => wf cfg known s | none => true))
def wfL (cfg : Cfg) (known : String → Bool) : List Schema → Bool
  | [] => true
  | s :: ss => wf cfg known s && wfL cfg known ss
def wfM (cfg : Cfg) (known : String → Bool) : List (String × Schema) → Bool
  | [] => true
  | (_, s) :: ps => wf cfg known s && wfM cfg known ps
end

end VM
