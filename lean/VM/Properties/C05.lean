/-
  C05 — concurrent validations are race-free and independent of each other.

  The model: any number of client threads over one shared pool, a schedule picking which thread
  moves next, the pool choosing any pooled object at each borrow. What a model cannot exhibit — the
  Go memory model, the implementation of sync.Pool / atomic.Value / sync.Mutex — is assumed
  (DESIGN.md section 8); the race detector runs on the real code in the correspondence check.
-/
import VM.Proofs.ConcProof
import VM.Properties.C04
import VM.Properties.C15
namespace VM.C05
open VM Generated Expect Pool Conc

/-- **Interleaving independence**: when every thread keeps the ownership discipline (`AllDisc`), each gets, under
    every schedule and every pool choice, exactly the result it gets alone on fresh objects. -/
theorem interleaving_independent {H : Type} [DecidableEq H] {R : Type} (sched : List Nat)
    (ps : List (Prog (Nat × H) R)) (chooser : List (Option Nat)) (L : Live (Nat × H))
    (σ : PState (Nat × H)) (τ : Nat × H → Obj) (hd : AllDisc ps L) (hs : Sim L σ τ) (t : Nat) (r : R)
    (hr : (runPool (weave sched ps) chooser σ)[t]? = some (some r)) :
    ∃ p, ps[t]? = some p ∧ runFresh p τ = r :=
  Conc.interleaving_independent sched ps chooser L σ τ hd hs t r hr

/-- ownership is disjoint: along every execution of the interleaving, distinct live handles are
    backed by distinct physical objects and no live object sits in the pool (the simulation
    invariant is preserved by every step — it is what `recycling_invisible` is proved with). -/
theorem ownership_disjoint {H : Type} [DecidableEq H] (L : Live H) (σ : PState H) (τ : H → Obj)
    (hs : Sim L σ τ) :
    (∀ h h' w w', L h = some w → L h' = some w' → σ.phys h = σ.phys h' → h = h')
    ∧ (∀ h w, L h = some w → σ.phys h ∉ σ.free) ∧ σ.free.Nodup :=
  ⟨hs.inj, hs.notfree, hs.nodup⟩

/-- T1: the package-level default options are only touched under their mutex -/
theorem default_options_guarded : guardedAccess.all (fun a => a.2.2.2) = true := by decide

/-- T1: shared regexp cache — lock-free reads of an immutable snapshot, copy-on-write under the mutex -/
theorem regexp_cache_discipline :
    rexpShape.lockPresent = true ∧ rexpShape.loadAfterLock = true ∧ rexpShape.onlyFreshWritten = true :=
  have ⟨_, _, _, _, _, _, _, lock, _, load, fresh, _⟩ := C15.rexp_shape_as_modelled
  ⟨lock, load, fresh⟩

/-- T1: every write through the receiver that `inputWrites` records inside a `Validate` method of a slot owner is an
    assignment to one of its own slots (that those sit under the recycling option is
    `C08.unrecycled_validators_never_assign_to_themselves`) -/
theorem long_lived_readonly :
    (inputWrites.filter (fun w => w.target == "receiver" &&
        (w.func == "SchemaValidator.Validate" || w.func == "HeaderValidator.Validate"
          || w.func == "ParamValidator.Validate" || w.func == "itemsValidator.Validate"
          || w.func == "schemaPropsValidator.validateAnyOf" || w.func == "schemaPropsValidator.validateOneOf"
          || w.func == "schemaPropsValidator.validateAllOf"))).all
      (fun w => w.expr == "index s.validators[]" || w.expr == "index p.validators[]" || w.expr == "index i.validators[]"
        || w.expr == "index s.anyOfValidators[]" || w.expr == "index s.oneOfValidators[]"
        || w.expr == "index s.allOfValidators[]") = true := by
  -- `+kernel`: plain `decide` has the elaborator evaluate the string comparisons first and the kernel again, at three
  -- times the cost
  decide +kernel

/-- T1: every `SpecValidator` owns the options object its schema validators read: `(*SpecValidator).Validate` writes
    `skipSchemataResult` into it (C08.option_writes_only_in_setters), which is only private to a validation if the
    object is allocated by the constructor -/
theorem spec_validator_owns_its_options : specOptionsOrigin = "local new(SchemaValidatorOptions)" := rfl

/-- T1: the inventory of process-wide state. These are all the package-level variables of the package: a constant table, the
    debug switch and its logger, five stateless helper singletons (nil pointers to empty structs), the default options with their
    mutex (`default_options_guarded`), the pools (C04), the shared empty result (C08.child_answers_never_written), and the
    regexp dictionary with its mutex (C15). A new one — a process-wide cache, a memo, a `sync.Once` — is shared state this model
    does not have, whatever it is used for -/
theorem process_wide_state_inventory :
    packageVars =
      [("context.go", "operationTypeEnum"), ("debug.go", "Debug"), ("debug.go", "validateLogger"),
       ("helpers.go", "pathHelp"), ("helpers.go", "valueHelp"), ("helpers.go", "errorHelp"), ("helpers.go", "paramHelp"),
       ("helpers.go", "responseHelp"), ("options.go", "defaultOpts"), ("options.go", "defaultOptsMutex"), ("pools.go", "pools"),
       ("result.go", "emptyResult"), ("rexp.go", "cacheMutex"), ("rexp.go", "reDict")] :=
  -- `rfl`: the literals are compared as they stand, where `decide` would decode every string
  rfl

/-! non-vacuity: two disciplined threads, a schedule that interleaves them -/
def thA : Prog Nat Nat := .borrow 0 (.write 0 0 5 (.read 0 0 fun v => .redeem 0 (.ret v)))
def thB : Prog Nat Nat := .borrow 0 (.write 0 0 9 (.read 0 0 fun v => .redeem 0 (.ret (v + 1))))

example : (runPool (weave [0, 1, 0, 1, 0, 1, 0, 1, 0, 1] [tag 0 thA, tag 1 thB]) [none, some 0]
    { phys := fun _ => 0, mem := fun _ _ => 0, free := [], next := 0 }) = [some 5, some 10] := by decide

example : AllDisc [tag 0 thA, tag 1 thB] (fun _ => none) := by
  intro t p hp
  match t, hp with
  | 0, hp => cases hp; exact ⟨tag_tagged 0 thA, by simp [Disciplined, thA, tag, upd]⟩
  | 1, hp => cases hp; exact ⟨tag_tagged 1 thB, by simp [Disciplined, thB, tag, upd]⟩
  | n + 2, hp => simp at hp

end VM.C05
