/-
  C01 — schema validation verdicts agree with JSON-Schema draft 4.
  Property theorems only; the proofs live in VM/Proofs/{Leaf,Slice,Object,Comp,Node,Tree}.lean (the no-panic half and the
  IMPORTANT!-message leak come from VM/Proofs/{Invariant,NoPanic,NoImp}.lean through Node.lean).
-/
import VM.Proofs.Tree
namespace VM.C01
open VM Impl Spec

/-- the oracles used by the witnesses: no pattern, no format, exact arithmetic -/
def O0 : Oracles :=
  { re := fun _ _ => some false, fmtKnown := fun _ => false, fmt := fun _ _ => false,
    isIntTol := fun n => n.isInt, mulOfTol := fun n m => (n / m).isInt }

mutual
theorem adm_repaired (v : JVal) : adm Cfg.repaired v = true := by
  match v with
  | .null | .bool _ | .num _ | .str _ => rfl
  | .arr xs => exact admList_repaired xs
  | .obj kvs => exact admMembers_repaired kvs
theorem admList_repaired (xs : List JVal) : admList Cfg.repaired xs = true := by
  match xs with
  | [] => rfl
  | x :: xs => rw [admList, adm_repaired x, admList_repaired xs]; rfl
theorem admMembers_repaired (kvs : List (String × JVal)) : admMembers Cfg.repaired kvs = true := by
  match kvs with
  | [] => rfl
  | (k, x) :: rest => rw [admMembers, adm_repaired x, admMembers_repaired rest]; rfl
end

/-- **Full strength, repaired model.** With every deviation switch off, the validator tree of
    the model never panics and accepts an instance exactly when draft 4 does — for every schema
    of the vocabulary (`wf`), every instance, every root path, every oracle (regexp engine, format
    registry), every definitions table and every amount of `$ref` fuel, draft 4 being `validF` with that same
    amount (out of fuel, both sides refuse a reference). -/
theorem C01_repaired (O : Oracles) (defs : String → Option Schema)
    (hdefs : DefsWf Cfg.repaired defs) (n : Nat) (s : Schema)
    (hs : wf Cfg.repaired (fun name => (defs name).isSome) s = true) (path : String) (v : JVal) :
    (validateF Cfg.repaired {} O defs n s path v).panicked = false ∧
    (validateF Cfg.repaired {} O defs n s path v).errors.isEmpty = validF O defs n s v :=
  validateF_agree Cfg.repaired O rfl (fun h => by cases h) defs hdefs n s hs path v (adm_repaired v)

/-- **Any configuration.** The same statement for an arbitrary setting of the switches, under
    exactly the conditions that keep each open switch from showing: exact float oracles
    (`floatTolerance`), admissible instances (`adm`: no `null` while the null early exit or the nil-skipping enum test is open,
    no `$schema`/`id` members while that exemption is open, no `headers` member holding objects with a
    string `$ref` while IMPORTANT! messages are kept), and the per-node conditions in `wf`
    (`requiredByDefault`, `formatBypassesType`). Every switch may be open except the additional-items
    bound (repaired by a `fix:` commit). -/
theorem C01_main (cfg : Cfg) (O : Oracles)
    (hbound : cfg.addlItemsBound = false)
    (hO : cfg.floatTolerance = true → OExact O)
    (defs : String → Option Schema) (hdefs : DefsWf cfg defs) (n : Nat) (s : Schema)
    (hs : wf cfg (fun name => (defs name).isSome) s = true) (path : String) (v : JVal)
    (hv : adm cfg v = true) :
    (validateF cfg {} O defs n s path v).panicked = false ∧
    (validateF cfg {} O defs n s path v).errors.isEmpty = validF O defs n s v :=
  validateF_agree cfg O hbound hO defs hdefs n s hs path v hv

/-- **The code as it is.** For the switches exactly as they stand in the code today (`Cfg.asIs`, after the `fix:`
    commits): the validator tree never panics and its verdict is draft 4's whenever the float oracles are exact (`OExact`: at
    every argument), the instance contains no `null`, no `$schema`/`id` member and no `headers` member holding objects with a string
    `$ref`, no required property carries a default and no `format` sits on a non-numeric type — each condition the
    no-trigger condition of one open deviation (witnesses below), none of them about the model rather than the code. -/
theorem C01_asIs (O : Oracles) (hO : OExact O)
    (defs : String → Option Schema) (hdefs : DefsWf Cfg.asIs defs) (n : Nat) (s : Schema)
    (hs : wf Cfg.asIs (fun name => (defs name).isSome) s = true) (path : String) (v : JVal)
    (hv : adm Cfg.asIs v = true) :
    (validateF Cfg.asIs {} O defs n s path v).panicked = false ∧
    (validateF Cfg.asIs {} O defs n s path v).errors.isEmpty = validF O defs n s v :=
  validateF_agree Cfg.asIs O rfl (fun _ => hO) defs hdefs n s hs path v hv

def asIsNoLeak : Cfg := { Cfg.asIs with leaksImportant := false }

/-- the same with the IMPORTANT!-message switch closed: no condition on `headers` members (`adm asIsNoLeak`) -/
theorem C01_asIs_partial (O : Oracles) (hO : OExact O)
    (defs : String → Option Schema) (hdefs : DefsWf asIsNoLeak defs) (n : Nat) (s : Schema)
    (hs : wf asIsNoLeak (fun name => (defs name).isSome) s = true) (path : String) (v : JVal)
    (hv : adm asIsNoLeak v = true) :
    (validateF asIsNoLeak {} O defs n s path v).panicked = false ∧
    (validateF asIsNoLeak {} O defs n s path v).errors.isEmpty = validF O defs n s v :=
  validateF_agree asIsNoLeak O rfl (fun _ => hO) defs hdefs n s hs path v hv

/-- The one-shot entry point (root path "") and a validator object built with any root path
    give the same verdict (repaired configuration, schemas of the vocabulary). -/
theorem C01_oneShot_eq_object (O : Oracles) (defs : String → Option Schema)
    (hdefs : DefsWf Cfg.repaired defs) (n : Nat) (s : Schema)
    (hs : wf Cfg.repaired (fun name => (defs name).isSome) s = true) (path : String) (v : JVal) :
    (validateF Cfg.repaired {} O defs n s "" v).errors.isEmpty
      = (validateF Cfg.repaired {} O defs n s path v).errors.isEmpty := by
  rw [(C01_repaired O defs hdefs n s hs "" v).2, (C01_repaired O defs hdefs n s hs path v).2]

/-! ### non-vacuity: a non-trivial schema and instance meet the hypotheses -/

def sDemo : Schema :=
  .mk { types := ["object"], required := ["a"] } none [] none
    [("a", .mk { types := ["integer"], maximum := some 3 } none [] none [] [] none [] [] [] [] none)]
    [] none [] [] [] [] none

example : wf Cfg.repaired (fun _ => false) sDemo = true := by decide
example : wf asIsNoLeak (fun _ => false) sDemo = true := by decide
example : wf Cfg.asIs (fun _ => false) sDemo = true := by decide
example : adm Cfg.asIs (.obj [("a", .num 2), ("headers", .obj [("X-A", .obj [("type", .str "string")])])]) = true := by decide
example : adm Cfg.asIs (.obj [("headers", .obj [("X-A", .obj [("$ref", .str "#/x")])])]) = false := by decide
example : adm asIsNoLeak (.obj [("a", .num 2), ("b", .arr [.str "x"])]) = true := by decide
example : DefsWf Cfg.repaired (fun _ => none) := by intro _ _ h; cases h

/-! ### witnesses: each open switch really deviates (as-is model ≠ specification) -/

def noDefs : String → Option Schema := fun _ => none
def run (cfg : Cfg) (s : Schema) (v : JVal) : Bool := (validateF cfg {} O0 noDefs 0 s "" v).errors.isEmpty
def spec (s : Schema) (v : JVal) : Bool := validF O0 noDefs 0 s v

def sNot : Schema := .mk {} none [] none [] [] none [] [] [] [] (some Schema.empty)

/-- `{"not":{}}` accepts `null` while the null early exit is open -/
theorem C01_witness_nullSkipsComposition :
    run Cfg.asIs sNot .null = true ∧ spec sNot .null = false
      ∧ run { Cfg.asIs with nullSkipsComposition := false } sNot .null = false := by decide

def sReqDefault : Schema :=
  .mk { required := ["a"] } none [] none
    [("a", .mk { default := some (.num 1) } none [] none [] [] none [] [] [] [] none)] [] none [] [] [] [] none

/-- a required property with a default is not required -/
theorem C01_witness_requiredByDefault :
    run Cfg.asIs sReqDefault (.obj []) = true ∧ spec sReqDefault (.obj []) = false
      ∧ run { Cfg.asIs with requiredByDefault := false } sReqDefault (.obj []) = false := by decide

def sNoAddl : Schema := .mk { addProps := .bool false } none [] none [] [] none [] [] [] [] none

/-- members named `id` escape `additionalProperties: false` -/
theorem C01_witness_ignoresSchemaIdKeys :
    run Cfg.asIs sNoAddl (.obj [("id", .num 1)]) = true ∧ spec sNoAddl (.obj [("id", .num 1)]) = false
      ∧ run { Cfg.asIs with ignoresSchemaIdKeys := false } sNoAddl (.obj [("id", .num 1)]) = false := by decide

def sStrFmt : Schema := .mk { types := ["string"], format := "date" } none [] none [] [] none [] [] [] [] none

/-- `{"type":"string","format":"date"}` accepts `[]` -/
theorem C01_witness_formatBypassesType :
    run Cfg.asIs sStrFmt (.arr []) = true ∧ spec sStrFmt (.arr []) = false
      ∧ run { Cfg.asIs with formatBypassesType := false } sStrFmt (.arr []) = false := by decide

def sTuple2 : Schema :=
  .mk { addItems := .schema } none [Schema.empty, Schema.empty]
    (some (.mk { types := ["integer"] } none [] none [] [] none [] [] [] [] none))
    [] [] none [] [] [] [] none

/-- the pinned snapshot (before the `fix:` commit): a tuple of two with schema-valued
    additionalItems accepted `[1,2,3,"x"]`; the code as it is now rejects it -/
theorem C01_witness_addlItemsBound_fixed :
    run Cfg.original sTuple2 (.arr [.num 1, .num 2, .num 3, .str "x"]) = true
      ∧ spec sTuple2 (.arr [.num 1, .num 2, .num 3, .str "x"]) = false
      ∧ run Cfg.asIs sTuple2 (.arr [.num 1, .num 2, .num 3, .str "x"]) = false := by decide

def sEnumNull : Schema := .mk { enum := [.null, .num 1] } none [] none [] [] none [] [] [] [] none

/-- the pinned snapshot rejected `null` against `{"enum":[null,1]}`; now accepted -/
theorem C01_witness_enumSkipsNil_fixed :
    run Cfg.original sEnumNull .null = false ∧ spec sEnumNull .null = true
      ∧ run Cfg.asIs sEnumNull .null = true := by decide

def sOneOfHeaders : Schema :=
  .mk {} none [] none [] [] none [] [] []
    [.mk { types := ["object"] } none [] none [] [] none [] [] [] [] none, sNoAddl] none

def vHeaders : JVal := .obj [("headers", .obj [("x", .obj [("$ref", .str "y")])])]

/-- an IMPORTANT!-tagged message of the failing alternative survives a satisfied oneOf -/
theorem C01_witness_leaksImportant :
    run Cfg.asIs sOneOfHeaders vHeaders = false ∧ spec sOneOfHeaders vHeaders = true
      ∧ run { Cfg.asIs with leaksImportant := false } sOneOfHeaders vHeaders = true := by decide

/-- an oracle that behaves like the tolerance-based integer test on 10000000001.5 -/
def Otol : Oracles := { O0 with isIntTol := fun _ => true }
/-- 3/2 as a normalised rational (a literal the kernel can inspect) -/
def r32 : Rat := ⟨3, 2, by decide, by decide⟩
def sInteger : Schema := .mk { types := ["integer"] } none [] none [] [] none [] [] [] [] none

/-- with a tolerant integer test `{"type":"integer"}` accepts a non-integer; with exact arithmetic
    (switch off) it does not. (That `swag.IsFloat64AJSONInteger(10000000001.5)` is true is observed
    on the real code by the correspondence check, not proved.) -/
theorem C01_witness_floatTolerance :
    (validateF Cfg.asIs {} Otol noDefs 0 sInteger "" (.num r32)).errors.isEmpty = true
      ∧ validF Otol noDefs 0 sInteger (.num r32) = false
      ∧ (validateF { Cfg.asIs with floatTolerance := false } {} Otol noDefs 0 sInteger "" (.num r32)).errors.isEmpty = false := by
  decide

end VM.C01
