/-
  C07 — spec validation never panics on a document that loads.
  What a model can carry: the nil-result flow of the default/example validators (the walker
  returns nil for a "visited" path; what its callers do with that), the regenerated table of
  reads on such results, and — through the sticky `panicked` flag — that the stages add no
  panic of their own to what the schema/parameter validators they call may raise (C06); then, with the models of those
  validators as judges, that the model of the whole of `Validate` never panics on a closed view
  (`C07_whole_model_no_panic`, with its hypotheses in executable form `C07_whole_model_no_panic_exec`).
-/
import VM.Proofs.DefaultsProof
import VM.Impl.Pipeline
import VM.Generated.SpecFacts
import VM.Impl.SpecModel
import VM.Proofs.NoPanic
import VM.Proofs.SimpleProof
import VM.Proofs.SwaggerTable
import VM.Proofs.Tree
import VM.Proofs.PipelineProof
namespace VM.C07
open VM Sw

/-! ### T1: every read on a possibly-nil walker result is guarded, or its path has no dot -/

/-- the response sites pass `responseCodeAsStr` ("default" or the decimal status code): no dot,
    fresh visited set, non-nil schema — the walker cannot return nil there (`response_walk_some`) -/
theorem nilable_reads_guarded :
    Generated.nilableReads.all (fun r => r.guarded || r.pathArg == "responseCodeAsStr") = true := by decide

/-- the table is not empty: the four call sites are seen by the extractor -/
theorem nilable_reads_seen : Generated.nilableReads.length = 4 := by decide

theorem dotSplits_no_dot (cs : List Char) (h : '.' ∉ cs) : dotSplits cs = [] := by
  induction cs with
  | nil => rfl
  | cons c rest ih =>
    rw [List.mem_cons, not_or] at h
    simp [dotSplits, ih h.2, beq_false_of_ne (Ne.symm h.1)]

theorem suffixOverlap_no_dot (path : String) (h : '.' ∉ path.toList) : suffixOverlap path = false := by
  simp only [suffixOverlap, dotSplits_no_dot _ h, List.any_nil]

/-- with a fresh visited set and a dot-free path the walker always returns a result -/
theorem response_walk_some (c : DCfg) (J : Judges) (w : Which) (O : Oracles) (inn : String) (s : Schema) (code : String)
    (h : '.' ∉ code.toList) : (walk c J w O inn s code []).1.isSome = true := by
  rw [walk_eq, isVisited_false (suffixOverlap_no_dot code h) fun _ => List.not_mem_nil]
  rfl

def Jnone : Judges :=
  { schema := fun _ _ _ => {}, param := fun _ _ => {}, header := fun _ _ => {}, items := fun _ _ _ _ _ => {} }
def O0 : Oracles :=
  { re := fun _ _ => some false, fmtKnown := fun _ => false, fmt := fun _ _ => false,
    isIntTol := fun n => n.isInt, mulOfTol := fun n m => (n / m).isInt }

/-- witness of the repaired defect, a body parameter named `a.a`: the walker hands back nil for the parameter's own path, on
    entry, with nothing visited -/
theorem C07_witness_dotted_name :
    (walk DCfg.asIs Jnone .dflt O0 "body" Schema.empty "a.a" []).1.isNone = true
    ∧ (walk DCfg.repaired Jnone .dflt O0 "body" Schema.empty "a.a" []).1.isSome = true := by decide

/-- **The default and example stages never panic by themselves**: for every view, every visited-path
    configuration, every regexp oracle — if the validators they call to judge a value (schema,
    parameter, header, items validators: C06/C16) return normally, so do the stages. In particular
    the nil result the walker returns for a "visited" path is passed on as it is (in the model a stage cannot dereference it:
    that the code does not is the table fact `nilable_reads_guarded`). -/
theorem C07_value_stages_no_panic (c : DCfg) (J : Judges) (w : Which) (O : Oracles) (hJ : JOk J) (v : View) :
    (valueStage c J w O v).panicked = false :=
  valueStage_ok c J w O (fun _ => True) kidsClosed_true hJ v (viewP_true v)

/-- **The pipeline returns normally when its stages do**, in both continue-on-errors modes -/
theorem C07_pipeline_no_panic (cont : Bool) (s : Stages)
    (h1 : Ok s.schemaPass) (h2 : Ok s.refsValid) (h3 : ∀ o ∈ s.middle cont, Ok o) (h4 : ∀ o ∈ s.late, Ok o) :
    (specValidate cont s).1.panicked = false := by
  rw [specValidate_eq]
  exact runStages_panicked <| List.forall_mem_cons.mpr ⟨h1, List.forall_mem_cons.mpr ⟨h2, fun o ho =>
    (List.mem_append.mp ho).elim (h3 o) (h4 o)⟩⟩

theorem simpleRes_ok (name : String) (r : Bool × Bool) (h : r.2 = false) : Ok (simpleRes name r) := by
  rw [simpleRes, if_neg (ne_true_of_eq_false h)]
  exact of_ite Ok rfl rfl

/-- the judges of the model (validator tree, parameter / header / items chains, code as it is) return normally on every
    schema all of whose references are known to a closed definitions table -/
theorem modelJudges_ok (O : Oracles) (defs : String → Option Schema) (hdefs : DefsClosed defs) :
    JOkOn (fun s => allRefsKnown (fun m => (defs m).isSome) s = true) (modelJudges O defs) where
  schema := fun s p v hs =>
    validateF_np Impl.Cfg.asIs rfl swaggerOpts O defs hdefs modelFuel s (allRefsKnown_refsKnown _ s hs) p v
  param := fun p v => simpleRes_ok _ _ (Simple.validate_np O _ _ _)
  header := fun h v => simpleRes_ok _ _ (Simple.validate_np O _ _ _)
  items := fun path _ rootFmt chain v => by
    dsimp only [modelJudges]
    split
    · rfl
    · exact simpleRes_ok _ _ (Simple.validateAux_np O _ _ _ _ _)
    · rfl

theorem kidsClosed_allRefsKnown (known : String → Bool) : KidsClosed (fun s => allRefsKnown known s = true) := by
  intro b itemsS itemsT addItemsS props patProps addPropsS deps allOf anyOf oneOf nt h
  obtain ⟨h1, h2, h3, h4, h5, h6, _, h8, _⟩ := Schema.forall_mem_kids.mp (allRefsKnown_kids h)
  exact ⟨h1, h2, h3, h4, h5, h6, h8⟩

theorem swagger_root_refs_known : refsKnown (fun n => (Generated.swaggerDefs n).isSome) Generated.swaggerRoot = true :=
  wf_refsKnown _ _ _ C02.swagger_wf_asIs.1
theorem swagger_defs_closed : DefsClosed Generated.swaggerDefs := fun name t h =>
  wf_refsKnown _ _ _ (List.all_eq_true.mp C02.swagger_wf_asIs.2 (name, t) (alookup_mem h))

/-- **The model of the whole of `Validate` never panics**: the Swagger schema pass over any raw document, the reference check,
    every rule loop, the default and example stages judging with the models of the schema, parameter, header and items
    validators (code as it is), merged by the pipeline in either continue-on-errors mode — for every document view whose
    definitions table is closed and whose parameter, response and definition schemas only hold references it knows
    (what the reference stage establishes before the value stages run), every regexp engine and format registry. -/
theorem C07_whole_model_no_panic (cont : Bool) (O : Oracles) (raw : JVal) (v0 v : View)
    (hdefs : DefsClosed (defsLookup v0))
    (hv : ViewP (fun s => allRefsKnown (fun m => (defsLookup v0 m).isSome) s = true) v) :
    (specModel cont O raw v0 v).1.panicked = false := by
  have hval (w : Which) : Ok (valueStage DCfg.asIs (modelJudges O (defsLookup v0)) w O v) :=
    valueStage_ok _ _ w O _ (kidsClosed_allRefsKnown _) (modelJudges_ok O (defsLookup v0) hdefs) v hv
  -- apart from the schema pass and the two value stages, a stage is a list of messages
  refine C07_pipeline_no_panic cont (modelStages O raw v0 v) ?_ rfl (fun o ho => ?_) (fun o ho => ?_)
  · exact validateF_np Impl.Cfg.asIs rfl swaggerOpts O Generated.swaggerDefs swagger_defs_closed modelFuel
      Generated.swaggerRoot swagger_root_refs_known "" raw
  · simp only [Stages.middle, modelStages, List.mem_cons, List.not_mem_nil, or_false] at ho
    rcases ho with rfl | rfl | rfl | rfl | rfl <;> rfl
  · simp only [Stages.late, modelStages, List.mem_cons, List.not_mem_nil, or_false] at ho
    rcases ho with rfl | rfl | rfl | rfl
    · exact hval _
    · exact hval _
    · rfl
    · rfl

def optAll (known : String → Bool) : Option Schema → Bool
  | some s => allRefsKnown known s
  | none => true

/-- executable form of the hypotheses of `C07_whole_model_no_panic` -/
def viewClosed (v0 v : View) : Bool :=
  let known := fun m => (defsLookup v0 m).isSome
  (v0.defs.map fun (n, s) => (defRef n, s)).all (fun p => refsKnown known p.2)
  && v.ops.all (fun o => o.params.all (fun p => optAll known p.schema)
      && (match o.responses with | some rs => rs.all (fun r => optAll known r.schema) | none => true))
  && v.defs.all (fun d => allRefsKnown known d.2)

theorem optAll_iff {known : String → Bool} {o : Option Schema} :
    optAll known o = true ↔ ∀ s, o = some s → allRefsKnown known s = true := by
  cases o <;> simp [optAll]

theorem viewClosed_spec (v0 v : View) (h : viewClosed v0 v = true) :
    DefsClosed (defsLookup v0) ∧ ViewP (fun s => allRefsKnown (fun m => (defsLookup v0 m).isSome) s = true) v := by
  unfold viewClosed at h
  simp only [Bool.and_eq_true, List.all_eq_true] at h
  obtain ⟨⟨h1, h2⟩, h3⟩ := h
  refine ⟨fun name t ht => h1 (name, t) (alookup_mem ht), fun o ho => ⟨fun p hp => optAll_iff.mp ((h2 o ho).1 p hp), ?_⟩, h3⟩
  intro rs hrs r hr
  have h' := (h2 o ho).2
  rw [hrs] at h'
  exact optAll_iff.mp (List.all_eq_true.mp h' r hr)

/-- the theorem with its hypotheses in executable form -/
theorem C07_whole_model_no_panic_exec (cont : Bool) (O : Oracles) (raw : JVal) (v0 v : View) (h : viewClosed v0 v = true) :
    (specModel cont O raw v0 v).1.panicked = false :=
  C07_whole_model_no_panic cont O raw v0 v (viewClosed_spec v0 v h).1 (viewClosed_spec v0 v h).2

def sRefTo (n : String) : Schema := .mk { ref := defRef n } none [] none [] [] none [] [] [] [] none
def vDemo : View :=
  { pathKeys := ["/a"],
    ops := [{ method := "POST", path := "/a", id := "op",
              opParams := [{ name := "body", loc := "body",
                             schema := some (.mk { types := ["object"] } none [] none [("p", sRefTo "D")] [] none [] [] [] [] none) }],
              responses := some [{ code := "200", schema := some (sRefTo "D") }] }],
    defs := [("D", .mk { types := ["object"], default := some (.num 1) } none [] none [("q", sRefTo "D")] [] none [] [] [] [] none)] }
example : viewClosed vDemo vDemo = true := by decide

end VM.C07
