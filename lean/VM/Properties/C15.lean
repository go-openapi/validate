/-
  C15 — pattern matching always uses the expression that was asked for.
-/
import VM.Proofs.RexpProof
import VM.Expect
namespace VM.C15
open VM Generated Rexp

/-- In every state reachable by any schedule of any number of threads asking for any patterns,
    every cached entry is the expression compiled from its own key, and only valid patterns are
    cached. -/
theorem cache_entries_belong (valid : Pat → Bool) (sched : List (Nat × Pat)) :
    CacheOk valid (runSched valid g0 sched).published :=
  (reachable_g0 valid sched).1

/-- whatever else is going on, a call returns the expression of the pattern it asked for, or
    reports the pattern invalid exactly when it is -/
theorem returns_requested (valid : Pat → Bool) (sched : List (Nat × Pat)) (t : Nat) (p : Pat)
    (res : Option Pat) (h : (runSched valid g0 sched).th t = .done p res) :
    res = (if valid p then some p else none) :=
  Rexp.returns_requested valid sched t p res h

/-- afterwards, alone: whatever the schedule was, asking the dictionary for a pattern gives that pattern's own expression
    (the after-phase of the correspondence check asks every pattern of a case again once the goroutines are done) -/
theorem afterwards_own_expression (valid : Pat → Bool) (sched : List (Nat × Pat)) (k r : Pat)
    (h : lookup k (runSched valid g0 sched).published = some r) : r = k :=
  ((cache_entries_belong valid sched) k r (lookup_mem h)).1

/-- an invalid pattern is reported, never cached -/
theorem invalid_reported_never_cached (valid : Pat → Bool) (sched : List (Nat × Pat)) (k r : Pat)
    (hm : (k, r) ∈ (runSched valid g0 sched).published) : valid k = true :=
  ((cache_entries_belong valid sched) k r hm).2

/-- once published, an entry is never lost (needs the mutex and the load inside it) -/
theorem entries_never_lost (valid : Pat → Bool) (sched : List (Nat × Pat)) (g : G) (hg : LInv g)
    (k : Pat) (h : lookup k g.published ≠ none) :
    lookup k (runSchedK valid id g sched).published ≠ none :=
  Rexp.entries_never_lost valid id sched g hg k h

theorem initial_lock_invariant : LInv g0 :=
  ⟨nofun, nofun⟩

/-- T1: the source has the shape the model assumes — looks up and compiles the requested pattern,
    inserts under the compiled expression's own source text, loads inside the critical section,
    writes only the fresh map and publishes it -/
theorem rexp_shape_as_modelled :
    rexpShape.lookupKey = "pattern" ∧ rexpShape.compileArg = "pattern"
    ∧ rexpShape.mustLookupKey = "pattern" ∧ rexpShape.mustCompileArg = "pattern"
    ∧ rexpShape.insertKey = "r.String()" ∧ rexpShape.testKey = "r.String()"
    ∧ rexpShape.storeArg = "newCache"
    ∧ rexpShape.lockPresent = true ∧ rexpShape.unlockDeferred = true ∧ rexpShape.loadAfterLock = true
    ∧ rexpShape.onlyFreshWritten = true ∧ rexpShape.copiesOld = true := by decide

/-- T1: `compileRegexp` answers with the dictionary's entry for the requested pattern or with the expression it has just
    compiled from it — there is no other way out — and rexp.go keeps no shared state beside the mutex and the dictionary
    (a second cache, e.g. a "last pattern" memo, is state the model does not have) -/
theorem rexp_no_other_answer :
    rexpReturns = ["r, nil", "nil, err", "r, nil"] ∧ rexpPkgVars = ["cacheMutex", "reDict"] := ⟨rfl, rfl⟩

/-- a wrong insert key (what a careless edit could produce) breaks it: thread 0 asks for "^a",
    then for "^b", and is handed the expression of "^a" -/
def badKey : Pat → Pat := fun _ => "^b"
theorem witness_wrong_insert_key :
    (match (runSchedK (fun _ => true) badKey g0 (List.replicate 7 (0, "^a") ++ List.replicate 3 (0, "^b"))).th 0 with
     | .done p res => (p, res) | _ => ("", none)) = ("^b", some "^a") := by decide

/-- non-vacuity: two threads racing to insert different patterns both end up published -/
example : ((runSchedK (fun _ => true) id g0
    [(0, "a"), (1, "b"), (0, "a"), (1, "b"), (0, "a"), (1, "b"), (0, "a"), (1, "b"), (0, "a"), (0, "a"), (0, "a"),
     (1, "b"), (1, "b"), (1, "b"), (1, "b")]).published.map Prod.fst) = ["b", "a"] := by decide

end VM.C15
