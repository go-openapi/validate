/-
  C09 — spec defaults and examples are judged exactly as their schema judges them.
  Property theorems; proofs in VM/Proofs/LocationsProof.lean and VM/Proofs/CollisionProof.lean.
  Judging a value against its own schema is C01/C16's business: every theorem here holds for
  arbitrary `Judges`.
-/
import VM.Proofs.LocationsProof
import VM.Proofs.CollisionProof
import VM.Proofs.PipelineProof
namespace VM.C09
open VM Sw

/-- **Repaired traversal: reported ⇔ rejected, at every location.** With the visited-path cut-off
    removed, the schema walker of the default validator (`w = .dflt`, findings are errors) and of
    the example validator (`w = .exmp`, findings are warnings) always returns a result, and a
    message is in it exactly when the specification `Exp` asks for it: the judgement of the value
    at some location reachable through items, tuple items, additionalItems, properties,
    patternProperties, additionalProperties, allOf — at any depth, under that location's path —
    or (defaults only) a pattern that does not compile. For every schema, path, visited set,
    judges and regexp oracle. -/
theorem C09_repaired (J : Judges) (O : Oracles) (w : Which) (inn : String) (s : Schema) (path : String) (vis : List String) :
    ∃ r, (walk DCfg.repaired J w O inn s path vis).1 = some r
      ∧ ∀ m, (m ∈ reportedOf w r ↔ Exp J O w inn s path m) :=
  walk_mem J O w inn s path vis

/-- **As the code is, minus exact collisions, partial.** With the suffix heuristic of the code in
    place (`suffixHeuristic := true`) the traversal is the same function as the repaired one on
    every schema none of whose walked paths triggers the heuristic (`noOverlap`, decidable).
    The exact-membership half of the visited test, which can also skip a location when two different locations
    render to the same dotted path (`C09_witness_exact_collision`), is switched off here; `C09_asIs` has both halves. -/
theorem C09_heuristic_partial (J : Judges) (O : Oracles) (w : Which) (inn : String) (s : Schema) (path : String)
    (h : noOverlap w s path = true) :
    walk { exactVisited := false, suffixHeuristic := true } J w O inn s path = walk DCfg.repaired J w O inn s path :=
  walk_noOverlap J O w inn _ rfl s path h

/-- … hence, on such schemas, reported ⇔ rejected for the heuristic as the code has it -/
theorem C09_heuristic_partial_reports (J : Judges) (O : Oracles) (w : Which) (inn : String) (s : Schema) (path : String)
    (vis : List String) (h : noOverlap w s path = true) :
    ∃ r, (walk { exactVisited := false, suffixHeuristic := true } J w O inn s path vis).1 = some r
      ∧ ∀ m, (m ∈ reportedOf w r ↔ Exp J O w inn s path m) := by
  rw [C09_heuristic_partial J O w inn s path h]
  exact walk_mem J O w inn s path vis

/-- **The code as it is.** With both halves of the visited test in place (exact membership in the visited set and the suffix
    heuristic), the traversal is the repaired one — and hence reports exactly what the specification asks — on every schema,
    path and visited set where the bookkeeping is unambiguous (`Unambiguous`, decidable): no walked path triggers the
    heuristic, no two walked locations render to the same dotted path, none was visited before. The listed finding lies
    outside, with a witness for each half (`C09_witness_suffix`, `C09_witness_exact_collision`). -/
theorem C09_asIs (J : Judges) (O : Oracles) (w : Which) (inn : String) (s : Schema) (path : String) (vis : List String)
    (h : Unambiguous w s path vis) :
    walk DCfg.asIs J w O inn s path vis = walk DCfg.repaired J w O inn s path vis
    ∧ ∃ r, (walk DCfg.asIs J w O inn s path vis).1 = some r ∧ ∀ m, (m ∈ reportedOf w r ↔ Exp J O w inn s path m) := by
  have e := walk_unambiguous J O w inn DCfg.asIs s path vis h
  refine ⟨e, ?_⟩
  rw [e]
  exact walk_mem J O w inn s path vis

/-- defaults are errors, examples are warnings: it is the example walker's warnings that hold exactly what `Exp` asks for -/
theorem C09_examples_are_warnings (J : Judges) (O : Oracles) (inn : String) (s : Schema) (path : String) (vis : List String) (m : Msg) :
    ∃ r, (walk DCfg.repaired J .exmp O inn s path vis).1 = some r ∧ (m ∈ r.warnings ↔ Exp J O .exmp inn s path m) :=
  (walk_mem J O .exmp inn s path vis).imp fun _ h => ⟨h.1, h.2 m⟩

/-- **Definitions**: with the repaired traversal the stage reports, for the definitions, exactly what the
    specification asks for some definition walked under `definitions.<name>` — for any number of
    definitions, any names, the visited set shared across them notwithstanding -/
theorem C09_definitions (J : Judges) (O : Oracles) (w : Which) (defs : List (String × Schema)) (m : Msg) :
    m ∈ reportedOf w (defsStage DCfg.repaired J w O defs {} [])
      ↔ ∃ d ∈ defs, Exp J O w "body" d.2 ("definitions." ++ d.1) m :=
  (defsStage_mem J O w defs {} [] m).trans (or_iff_right (not_mem_reportedOf_empty w m))

/-- **Body parameters, completeness**: whatever the specification asks for the parameter's schema is reported -/
theorem C09_body_param_reported (J : Judges) (O : Oracles) (w : Which) (res : Res) (p : Param) (s : Schema) (hs : p.schema = some s)
    (m : Msg) (h : Exp J O w p.loc s p.name m) : m ∈ reportedOf w (paramSchema DCfg.repaired J w O res p) := by
  obtain ⟨red, hr, hm⟩ := walk_mem J O w p.loc s p.name []
  rw [paramSchema_eq J O w _ res p hs hr]
  exact mem_reportIf_of_mem ((hm m).mpr h) res _

/-- **Body parameters, soundness**: nothing else is reported but the wrapper message -/
theorem C09_body_param_only (J : Judges) (O : Oracles) (w : Which) (p : Param) (s : Schema) (hs : p.schema = some s)
    (m : Msg) (h : m ∈ reportedOf w (paramSchema DCfg.repaired J w O {} p)) :
    m = mkMsg (kindName w "Param") [p.name, p.loc] ∨ Exp J O w p.loc s p.name m := by
  obtain ⟨red, hr, hm⟩ := walk_mem J O w p.loc s p.name []
  rw [paramSchema_eq J O w _ {} p hs hr] at h
  exact (eq_or_mem_of_mem_reportIf h).imp_right (hm m).mp

/-- **Response schemas**, both directions -/
theorem C09_response_reported (J : Judges) (O : Oracles) (w : Which) (o : Op) (r : Response) (res : Res) (s : Schema)
    (hs : r.schema = some s) (m : Msg) (h : Exp J O w "response" s r.code m) :
    m ∈ reportedOf w (respSchema DCfg.repaired J w O o r res) := by
  obtain ⟨red, hr, hm⟩ := walk_mem J O w "response" s r.code []
  rw [respSchema_eq J O w _ o r res hs hr]
  exact mem_reportIf_of_mem ((hm m).mpr h) res _

theorem C09_response_only (J : Judges) (O : Oracles) (w : Which) (o : Op) (r : Response) (s : Schema)
    (hs : r.schema = some s) (m : Msg) (h : m ∈ reportedOf w (respSchema DCfg.repaired J w O o r {})) :
    m = mkMsg (kindName w "Response") [o.id, responseName r] ∨ Exp J O w "response" s r.code m := by
  obtain ⟨red, hr, hm⟩ := walk_mem J O w "response" s r.code []
  rw [respSchema_eq J O w _ o r {} hs hr] at h
  exact (eq_or_mem_of_mem_reportIf h).imp_right (hm m).mp

def O0 : Oracles :=
  { re := fun _ _ => some false, fmtKnown := fun _ => false, fmt := fun _ _ => false,
    isIntTol := fun n => n.isInt, mulOfTol := fun n m => (n / m).isInt }

/-- a judge that rejects every value, naming the location -/
def Jreject : Judges :=
  { schema := fun _ path _ => { errors := [{ code := 601, name := path, tag := "rejected" }] },
    param := fun _ _ => {}, header := fun _ _ => {}, items := fun _ _ _ _ _ => {} }

def intDefault : Schema := .mk { types := ["integer"], default := some (.str "bad") } none [] none [] [] none [] [] [] [] none
def defA : Schema := .mk { types := ["object"] } none [] none [("a", intDefault), ("b", intDefault)] [] none [] [] [] [] none

/-! The longer witnesses below are closed by `decide +kernel`: plain `decide` has the elaborator evaluate the string comparisons
    first and the kernel again, at three times the cost. -/

def namesOf (r : Option Res) : List String := match r with | some x => x.errors.map (·.name) | none => []

/-- property `a` of definition `a`: the code as it is never judges it (its path `definitions.a.a`
    ends in what its parent path ends in); the repaired traversal does -/
theorem C09_witness_suffix :
    namesOf (walk DCfg.asIs Jreject .dflt O0 "body" defA "definitions.a" []).1 = ["definitions.a.b.default"]
    ∧ namesOf (walk DCfg.repaired Jreject .dflt O0 "body" defA "definitions.a" []).1
        = ["definitions.a.a.default", "definitions.a.b.default"] := by decide +kernel

def defColl : Schema :=
  .mk { types := ["object"], addProps := .schema } none [] none [("additionalProperties", Schema.empty)] [] (some intDefault) [] [] [] [] none

/-- a property *named* `additionalProperties` next to a schema-valued additionalProperties: both
    render to the same path, the second is taken for visited and its default is never judged
    (exact membership, not the heuristic) -/
theorem C09_witness_exact_collision :
    namesOf (walk { exactVisited := true, suffixHeuristic := false } Jreject .dflt O0 "body" defColl "definitions.D" []).1 = []
    ∧ namesOf (walk DCfg.repaired Jreject .dflt O0 "body" defColl "definitions.D" []).1
        = ["definitions.D.additionalProperties.default"] := by decide +kernel

/-! ### non-vacuity -/
theorem defA_Pet_noOverlap : noOverlap .dflt defA "definitions.Pet" = true := by decide +kernel
theorem defA_a_overlap : noOverlap .dflt defA "definitions.a" = false := by decide

example : Unambiguous .dflt defA "definitions.Pet" [] := ⟨defA_Pet_noOverlap, by decide, by decide⟩
/-- the two witnesses are outside: one path overlaps its own suffix, two locations collide -/
example : ¬ Unambiguous .dflt defA "definitions.a" [] := fun h => Bool.false_ne_true (defA_a_overlap.symm.trans h.1)
example : ¬ Unambiguous .dflt defColl "definitions.D" [] := fun h => absurd h.2.1 (by decide)
example : noOverlap .dflt defA "definitions.Pet" = true := defA_Pet_noOverlap
example : noOverlap .dflt defA "definitions.a" = false := defA_a_overlap

/-! ### through the pipeline: the value stages are not gated on each other

`(*SpecValidator).Validate` stops early at three points only, all of them *before* the default stage. Once a run gets past the
third one — in the default mode that means: no stage before found an error — the default stage's errors and the example
stage's warnings are both in the result, whatever the other one found. -/

/-- the run reaches the value stages: stopping was not asked for, or nothing before them failed -/
def ReachesValueStages (cont : Bool) (s : Stages) : Prop :=
  cont = true ∨ (mergeAll ((({} : Res).mergeOne s.schemaPass).mergeOne s.refsValid) (s.middle cont)).errors = []

theorem C09_value_stages_both_reported (cont : Bool) (s : Stages) (h : ReachesValueStages cont s) (m : Msg) :
    (m ∈ s.defaults.errors → m ∈ (runStages cont s).errors)
    ∧ (m ∈ s.examples.warnings → m ∈ (runStages cont s).warnings) := by
  have hlate : runStages cont s
      = mergeAll (mergeAll ((({} : Res).mergeOne s.schemaPass).mergeOne s.refsValid) (s.middle cont)) s.late := by
    rcases h with rfl | h3
    · rfl
    · -- errors only grow along the merges: none after the middle stages, none at the two earlier returns
      have h2 := errors_nil_of_mergeAll h3
      simp [runStages, Res.errors_nil_of_mergeOne h2, h2, h3]
  rw [hlate]
  exact ⟨fun hm => (mem_mergeAll_errors _ _ _).mpr (.inr ⟨s.defaults, .head _, hm⟩),
    fun hm => (mem_mergeAll_warnings _ _ _).mpr (.inr ⟨s.examples, .tail _ (.head _), hm⟩)⟩

/-- non-vacuity: a bad default and a bad example in a document that is otherwise clean, default mode -/
example : ReachesValueStages false { defaults := { errors := [mkMsg "d" []] }, examples := { warnings := [mkMsg "e" []] } } :=
  Or.inr (by decide)

end VM.C09
