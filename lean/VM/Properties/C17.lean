/-
  C17 — every rejection is explained by well-formed, correctly located errors.
-/
import VM.Properties.C01
import VM.Proofs.Located
namespace VM.C17
open VM Impl Spec

/-- the verdict of a result is *defined* as the absence of errors (result.go:421-426) -/
theorem invalid_has_error (r : Res) : isValid (some r) = false ↔ r.errors ≠ [] := by
  simp [isValid]

theorem valid_has_none (r : Res) : isValid (some r) = true ↔ r.errors = [] := by
  simp [isValid]

/-- the one-shot entry point returns nil exactly when the underlying result is valid, and
    otherwise a composite of exactly that result's errors (schema.go:41-54); merging and adding keep a
    duplicate-free list duplicate-free (C20.merge_nodup / addErrors_nodup) -/
def oneShot (r : Res) : Option (Nat × List Msg) :=
  if r.errors.isEmpty then none else some (422, r.errors)

theorem oneShot_lists_exactly (r : Res) :
    (oneShot r = none ↔ r.errors = []) ∧
    (∀ c es, oneShot r = some (c, es) → c = 422 ∧ es = r.errors) := by
  unfold oneShot
  constructor
  · cases h : r.errors <;> simp
  · intro c es h
    split at h
    · cases h
    · cases h; exact ⟨rfl, rfl⟩

/-- **Every error is located under the caller's root path.** For every schema (no vocabulary condition), every
    instance, every regexp engine and format registry, every setting of the deviation switches and every amount of
    `$ref` fuel, with the plain options: each error the model of the validator tree reports carries a name that begins with
    the root path it was given (`pre root name`, a prefix of characters) — or no name at all (the two messages without a
    location: "array doesn't allow for additional items" and the model's fuel marker). Which member a name designates is
    not part of the statement (for the root `""` of the one-shot entry point it says nothing): the model calls the
    validator of member `k` of an object at `p` with `p.k`, of element `i` of a tuple with `p.i`, and the two evaluations
    below show it on instances; the argument per sub-validator is `TreeInv` (VM/Proofs/Invariant.lean), at the instance
    `locInv`. -/
theorem C17_errors_under_root (cfg : Cfg) (O : Oracles) (defs : String → Option Schema) (n : Nat) (s : Schema)
    (root : String) (v : JVal) :
    ∀ m ∈ (validateF cfg {} O defs n s root v).errors, pre root m.name ∨ m.name = "" :=
  validateF_loc cfg O defs n s root v

/-- a missing required member is reported *at the member's own path* under the object that lacks it -/
theorem C17_required_located :
    (validateF Cfg.asIs {} C01.O0 C01.noDefs 0
        (.mk { required := ["a"] } none [] none [] [] none [] [] [] [] none) "doc.x" (.obj [])).errors.map (·.name)
      = ["doc.x.a"] := by decide

/-- non-vacuity: a nested failure and where it is reported -/
example : ((validateF Cfg.asIs {} C01.O0 C01.noDefs 0 C01.sDemo "doc" (.obj [("a", .num 7)])).errors.map (·.name)) = ["doc.a"] := by decide

end VM.C17
