/-
  C03 — spec validation enforces exactly the documented extra rules.
  Property theorems; proofs of the per-rule equivalences in VM/Proofs/RulesProof.lean and VM/Proofs/InheritProof.lean.
-/
import VM.Proofs.RulesProof
import VM.Proofs.InheritProof
import VM.Proofs.PipelineProof
import VM.Impl.SpecModel
namespace VM.C03
open VM Sw Rules

/-- **Exactly the documented rules.** The model of the rule loops reports no error exactly when
    every documented rule holds — for every analysed view (any number of operations, parameters,
    responses, definitions), every regexp oracle, both settings of the path-uniqueness option.
    `DistinctKeys` is what Go's maps guarantee: no two operations share method and path.
    Every rule, the two inheritance rules (duplicate inherited properties, circular ancestry) included,
    is stated in `Rules.*` as a predicate on the view (the inheritance rules through the walk relation
    `Revisits` and the names along the ancestry, arrays-declare-items through the chain predicate `itemsDeclared`); several
    predicates share helper functions with the loops (`itemsChainOK`, `chase`, `directMatch`, `ancestryKids`), so what these
    helpers get wrong is on both sides. -/
theorem C03_rules (O : Oracles) (v : View) (hk : DistinctKeys v.ops) :
    extraRuleErrs O v = [] ↔ RulesHold O v := by
  simp only [extraRuleErrs, RulesHold, List.append_eq_nil_iff, referenceErrs_nil_iff, dupOperationIDs_nil_iff,
    inheritanceErrs_nil_iff, parameterErrs_nil_iff O v hk, itemsErrs_nil_iff, requiredDefinitionErrs_nil_iff, pathNameErrs_nil_iff,
    and_assoc]

/-- "reports an error as soon as any one of them is broken": each rule separately (all of `RulesHold` but
    `InheritanceRules` and `ArraysDeclareItems`) -/
theorem C03_each_rule_reported (O : Oracles) (v : View) (hk : DistinctKeys v.ops) (h : extraRuleErrs O v = []) :
    UniqueOperationIds v ∧ (v.strict = true → NoOverlap v.ops) ∧ (∀ o ∈ v.ops, OperationRules O o)
      ∧ RequiredDefined O v ∧ PathsPresent v ∧ v.refsResolve = true := by
  obtain ⟨hrefs, hids, -, hover, hops, -, hreq, hpaths⟩ := (C03_rules O v hk).mp h
  exact ⟨hids, hover, hops, hreq, hpaths, hrefs⟩

/-- **The two inheritance rules, declaratively.** The loop of `validateDuplicatePropertyNames` reports nothing exactly when,
    for every definition that inherits, the walk down its ancestry never follows a reference it is already below
    (`Revisits`: no ancestor is its own ancestor) and no property name is declared twice along that ancestry
    (`leafNames … .Nodup`) — whatever the order of the allOf members, the alias chains, the anonymous allOf nesting. -/
theorem C03_inheritance_rules (defs : String → Option Schema) (l : List (String × Schema)) :
    duplicatePropertyErrs defs l = [] ↔
      ∀ ds ∈ l, ds.2.allOf ≠ [] → ¬ Revisits defs 64 ds.2 [defRef ds.1] ∧ (leafNames defs 64 ds.2).Nodup :=
  duplicatePropertyErrs_nil_iff defs l

/-- the walk reports a reference exactly when it is followed twice on one way down (any nesting bound) -/
theorem C03_circular_iff (defs : String → Option Schema) (fuel : Nat) (nm : String) (sch : Schema) (path : List String) :
    (circAnc defs fuel nm sch path).1 ≠ [] ↔ Revisits defs fuel sch path := circAnc_iff defs fuel nm sch path

/-- **Acceptance by the model of the whole of `Validate`.** With continue-on-errors, the main result carries no error exactly
    when the Swagger schema pass reports none, every documented rule holds (`RulesHold`) and the default and example stages
    report none — no stage is skipped, none is merged twice, nothing else can raise an error. -/
theorem C03_whole_accepts_iff (O : Oracles) (raw : JVal) (v0 v : View) (hk : DistinctKeys v.ops) :
    (specModel true O raw v0 v).1.errors = [] ↔
      ((schemaPassRes O raw).errors = [] ∧ RulesHold O v
        ∧ (valueStage DCfg.asIs (modelJudges O (defsLookup v0)) .dflt O v).errors = []
        ∧ (valueStage DCfg.asIs (modelJudges O (defsLookup v0)) .exmp O v).errors = []) := by
  rw [← C03_rules O v hk, specModel, specValidate_eq]
  -- the stages of the model are the schema pass, the rule loops one by one, the two value stages
  simp only [runStages_true_errors_nil, Stages.all, Stages.middle, Stages.late, modelStages, msgsRes, List.cons_append,
    List.nil_append, List.forall_mem_cons, List.not_mem_nil, false_imp_iff, implies_true, and_true, ↓reduceIte, extraRuleErrs,
    List.append_eq_nil_iff, and_assoc]
  exact ⟨fun ⟨a, b, c, d, e, f, g, h, i, j⟩ => ⟨a, b, c, d, e, f, g, j, h, i⟩,
    fun ⟨a, b, c, d, e, f, g, j, h, i⟩ => ⟨a, b, c, d, e, f, g, h, i, j⟩⟩

/-! ### the path-template scanner (helpers.go:130-158) -/

theorem scanParam_spec (cs acc : List Char) (n r : List Char) (h : scanParam cs acc = some (n, r)) :
    ∃ t, n = acc.reverse ++ t ∧ cs = t ++ '}' :: r ∧ '{' ∉ t ∧ '}' ∉ t ∧ n ≠ [] := by
  induction cs generalizing acc with
  | nil => cases h
  | cons c rest ih =>
    rw [scanParam] at h
    by_cases hc : c = '}'
    · rw [if_pos (beq_iff_eq.mpr hc)] at h
      by_cases ha : acc.isEmpty = true
      · rw [if_pos ha] at h; cases h
      · rw [if_neg ha] at h
        obtain ⟨rfl, rfl⟩ := Prod.mk.inj (Option.some.inj h)
        exact ⟨[], by simp, by simp [hc], nofun, nofun, by simpa using ha⟩
    · rw [if_neg (by simpa using hc)] at h
      by_cases ho : c = '{'
      · rw [if_pos (beq_iff_eq.mpr ho)] at h; cases h
      · rw [if_neg (by simpa using ho)] at h
        obtain ⟨t, rfl, rfl, h3, h4, h5⟩ := ih _ h
        exact ⟨c :: t, by simp, rfl, by simp [h3, Ne.symm ho], by simp [h4, Ne.symm hc], h5⟩

/-- every placeholder the scanner extracts is `{name}` with a non-empty, brace-free name -/
theorem segParams_shape (fuel : Nat) (cs : List Char) :
    ∀ l ∈ segParams fuel cs, ∃ name : List Char, l = "{" ++ String.ofList name ++ "}" ∧ name ≠ [] ∧ '{' ∉ name ∧ '}' ∉ name := by
  induction fuel generalizing cs with
  | zero => exact fun _ h => nomatch h
  | succ fuel ih =>
    cases cs with
    | nil => exact fun _ h => nomatch h
    | cons c rest =>
      rw [segParams]
      by_cases hc : (c == '{') = true
      · rw [if_pos hc]
        cases hs : scanParam rest [] with
        | none => exact ih rest
        | some nr =>
          obtain ⟨t, rfl, -, h3, h4, h5⟩ := scanParam_spec rest [] nr.1 nr.2 hs
          exact List.forall_mem_cons.mpr ⟨⟨_, rfl, h5, h3, h4⟩, ih nr.2⟩
      · rw [if_neg hc]; exact ih rest

/-! ### witnesses: the shapes no fixture reaches

    The longer ones are closed by `decide +kernel`: plain `decide` has the elaborator evaluate the string comparisons first and
    the kernel again, at three times the cost. -/

def O0 : Oracles :=
  { re := fun p _ => if p == "(" then none else some false, fmtKnown := fun _ => false, fmt := fun _ _ => false,
    isIntTol := fun n => n.isInt, mulOfTol := fun n m => (n / m).isInt }

def pathParam (n : String) : Param := { name := n, loc := "path", required := true, base := { types := ["string"] } }

/-- two placeholders in one segment are both extracted -/
example : extractPathParams "/a/{x}-{y}/b" = ["{x}", "{y}"] := by decide
/-- a repeated placeholder (the `i > j` scan) is reported once -/
example : (operationParamErrs O0 ({ method := "GET", path := "/a/{id}/b/{id}", opParams := [pathParam "id"] } : Op)).map (·.tag)
    = ["pathParamNotUnique:/a/{id}/b/{id}|{id}|{id}"] := by decide +kernel
/-- a body parameter arriving next to an inline one: two body parameters -/
def opTwoBodies : Op :=
  { id := "op", method := "POST", path := "/a", opParams := [{ name := "sb", loc := "body" }, { name := "inline", loc := "body" }] }
example : (operationParamErrs O0 opTwoBodies).map (·.tag) = ["multipleBodyParam:op"] := by decide
/-- a required property satisfied only through a schema-valued additionalProperties -/
example : requiredPropErrs O0 "missing" "D" 8
    (.mk { addProps := .schema } none [] none [] [] (some (.mk {} none [] none [("missing", Schema.empty)] [] none [] [] [] [] none)) [] [] [] [] none)
    = [] := by decide
example : (requiredPropErrs O0 "missing" "D" 8
    (.mk { addProps := .schema } none [] none [] [] (some (.mk {} none [] none [("other", Schema.empty)] [] none [] [] [] [] none)) [] [] [] [] none)).map (·.tag)
    = ["requiredButNotDefined:missing|D", "requiredButNotDefined:missing|D"] := by decide
/-! inheritance: a diamond is not a cycle (the code reported it as one before the `fix:` commit), a cycle below the
    starting definition is one, a property of the shared ancestor reaches the heir twice -/
def sRef (n : String) : Schema := .mk { ref := defRef n } none [] none [] [] none [] [] [] [] none
def sObj (ps : List String) : Schema :=
  .mk { types := ["object"] } none [] none (ps.map fun p => (p, Schema.empty)) [] none [] [] [] [] none
def sAllOf (l : List Schema) : Schema := .mk {} none [] none [] [] none [] l [] [] none
def diamond (cProps : List String) : List (String × Schema) :=
  [("C", sObj cProps), ("A", sAllOf [sRef "C", sObj ["a"]]), ("B", sAllOf [sRef "C", sObj ["b"]]), ("D", sAllOf [sRef "A", sRef "B"])]
def lookupIn (l : List (String × Schema)) : String → Option Schema := fun r => alookup r (l.map fun (n, s) => (defRef n, s))

theorem C03_witness_diamond_is_not_circular : duplicatePropertyErrs (lookupIn (diamond [])) (diamond []) = [] := by decide +kernel
theorem C03_witness_diamond_shared_property :
    (duplicatePropertyErrs (lookupIn (diamond ["c"])) (diamond ["c"])).map (·.tag) = ["duplicateProperties:D|[#/definitions/C.c]"] := by
  decide +kernel
def cycleBelow : List (String × Schema) :=
  [("A", sAllOf [sAllOf [sRef "B"], sObj []]), ("B", sAllOf [sRef "C"]), ("C", sAllOf [sRef "B", sObj []])]
theorem C03_witness_cycle_below_start :
    Revisits (lookupIn cycleBelow) 64 (sAllOf [sAllOf [sRef "B"], sObj []]) [defRef "A"] :=
  (circAnc_iff _ 64 "A" _ _).mp (by decide +kernel)

/-- two definitions that are bare references to each other, inherited from by a third: circular (the code looped for ever
    on this before the `fix:` commit) -/
def aliasCycle : List (String × Schema) := [("AlA", sRef "AlB"), ("AlB", sRef "AlA"), ("AlC", sAllOf [sRef "AlA", sObj []])]
theorem C03_witness_alias_cycle :
    (duplicatePropertyErrs (lookupIn aliasCycle) aliasCycle).map (·.tag) = ["circularAncestryDefinition:AlC|[#/definitions/AlA]"] := by
  decide +kernel

/-- non-vacuity: a view with two operations that meets every rule -/
def vGood : View :=
  { pathKeys := ["/a/{id}", "/b"],
    ops := [{ method := "GET", path := "/a/{id}", id := "op1", opParams := [pathParam "id"] },
            { method := "GET", path := "/b", id := "op2", opParams := [{ name := "q", loc := "query", base := { types := ["string"] } }] }] }
example : extraRuleErrs O0 vGood = [] := by decide
example : DistinctKeys vGood.ops := by simp [DistinctKeys, vGood]

/-- templates of one method that differ by a trailing slash — also after placeholder stripping — do not overlap: the stripped
    forms keep the trailing segment separator (`stripParametersInPath` is a character scanner written by hand and tied to
    the regexp-based original of helpers.go by the `pathfuncs` correspondence family) -/
theorem C03_witness_trailing_slash_is_not_an_overlap :
    overlapErrs [{ method := "GET", path := "/twin" }, { method := "GET", path := "/twin/" }] = []
    ∧ overlapErrs [{ method := "GET", path := "/twin/{id}/" }, { method := "GET", path := "/twin/{itemId}" }] = []
    ∧ overlapErrs [{ method := "GET", path := "/twin/{id}" }, { method := "GET", path := "/twin/{itemId}" }] ≠ [] := by decide +kernel

end VM.C03
