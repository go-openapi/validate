/-
  C02 — an accepted Swagger document satisfies the Swagger 2.0 JSON schema.
  The schema is the closed term regenerated from the JSON the library embeds
  (VM/Generated/SwaggerSchema.lean); the obligations below are kernel-checked facts about it.
-/
import VM.Proofs.Tree
import VM.Proofs.PipelineProof
import VM.Proofs.SwaggerTable
import VM.Properties.C01
import VM.Impl.SpecModel
namespace VM.C02
open VM Impl Spec Generated Sw

theorem swagger_table_wf_repaired : swaggerTable.all (fun p => wf Cfg.repaired known p.2) = true :=
  List.all_eq_true.mpr fun p hp =>
    wf_mono (fun h => by cases h) (fun h => by cases h) known p.2 (List.all_eq_true.mp swagger_wf_asIs.2 p hp)

theorem swagger_root_wf_repaired : wf Cfg.repaired known swaggerRoot = true :=
  wf_mono (fun h => by cases h) (fun h => by cases h) known swaggerRoot swagger_wf_asIs.1

theorem swagger_defs_wf_repaired : DefsWf Cfg.repaired swaggerDefs := fun name t h =>
  List.all_eq_true.mp swagger_table_wf_repaired (name, t) (alookup_mem h)

theorem swagger_defs_wf_asIs : DefsWf asIsC02 swaggerDefs := fun name t h =>
  List.all_eq_true.mp swagger_wf_asIs.2 (name, t) (alookup_mem h)

/-- **The schema pass, repaired configuration.** For the Swagger 2.0 schema as the library embeds it,
    every raw document, every regexp engine and format registry and every amount of `$ref` fuel:
    the model of the validator tree reports no error exactly when the document is valid under
    draft-4 semantics, and never panics. -/
theorem C02_schema_pass_repaired (O : Oracles) (n : Nat) (path : String) (doc : JVal) :
    (validateF Cfg.repaired {} O swaggerDefs n swaggerRoot path doc).panicked = false ∧
    (validateF Cfg.repaired {} O swaggerDefs n swaggerRoot path doc).errors.isEmpty
      = validF O swaggerDefs n swaggerRoot doc :=
  validateF_agree Cfg.repaired O rfl (fun h => by cases h) swaggerDefs swagger_defs_wf_repaired n
    swaggerRoot swagger_root_wf_repaired path doc (C01.adm_repaired doc)

/-- **The schema pass, as-is, partial.** With the remaining switches as they stand in the code
    (null early exit, `$schema`/`id` exemption, IMPORTANT!-message leak, required-satisfied-by-default, float tolerance):
    the same agreement for every document that contains no `null`, no member named `$schema`
    or `id` and no `headers` member holding objects with a string `$ref` (`adm`), under exact float oracles. That no required property of the Swagger schema
    carries a default is part of the kernel-checked `wf` facts above. -/
theorem C02_schema_pass_asIs_partial (O : Oracles) (hO : OExact O) (n : Nat) (path : String) (doc : JVal)
    (hdoc : adm asIsC02 doc = true) :
    (validateF asIsC02 {} O swaggerDefs n swaggerRoot path doc).panicked = false ∧
    (validateF asIsC02 {} O swaggerDefs n swaggerRoot path doc).errors.isEmpty
      = validF O swaggerDefs n swaggerRoot doc :=
  validateF_agree asIsC02 O rfl (fun _ => hO) swaggerDefs swagger_defs_wf_asIs n
    swaggerRoot swagger_wf_asIs.1 path doc hdoc

/-- **The pipeline never loses an error of the schema pass**: whatever the later stages report and
    whichever continue-on-errors setting, a run that ends without errors had an error-free schema pass. -/
theorem C02_pipeline (cont : Bool) (s : Stages) (h : (specValidate cont s).1.errors = []) :
    s.schemaPass.errors = [] := by
  rw [specValidate_eq] at h
  exact List.eq_nil_iff_forall_not_mem.mpr fun m hm => List.not_mem_nil (h ▸ schemaPass_errors_subset cont s hm)

/-- an accepted run had an error-free schema pass, so whatever verdict the schema pass agrees with is `true` -/
theorem accepted_of_agree {cont : Bool} {s : Stages} {r : Res} {b : Bool} (hpass : s.schemaPass = r)
    (hagree : r.errors.isEmpty = b) (hacc : (specValidate cont s).1.errors = []) : b = true := by
  rw [← hagree, ← hpass, C02_pipeline cont s hacc]; rfl

/-- **C02, repaired model**: an accepted document is valid against the Swagger 2.0 schema. -/
theorem C02_accepted_is_schema_valid (cont : Bool) (s : Stages) (O : Oracles) (n : Nat) (doc : JVal)
    (hpass : s.schemaPass = validateF Cfg.repaired {} O swaggerDefs n swaggerRoot "" doc)
    (hacc : (specValidate cont s).1.errors = []) :
    validF O swaggerDefs n swaggerRoot doc = true :=
  accepted_of_agree hpass (C02_schema_pass_repaired O n "" doc).2 hacc

/-- … and for the code as it is but for the one switch `asIsC02` closes (IMPORTANT!-message leak included), on documents without `null`, without `$schema`/`id`
    members and without a `headers` member holding objects with a string `$ref` (Swagger 2.0 headers cannot be references) -/
theorem C02_accepted_is_schema_valid_partial (cont : Bool) (s : Stages) (O : Oracles) (hO : OExact O) (n : Nat) (doc : JVal)
    (hdoc : adm asIsC02 doc = true)
    (hpass : s.schemaPass = validateF asIsC02 {} O swaggerDefs n swaggerRoot "" doc)
    (hacc : (specValidate cont s).1.errors = []) :
    validF O swaggerDefs n swaggerRoot doc = true :=
  accepted_of_agree hpass (C02_schema_pass_asIs_partial O hO n "" doc hdoc).2 hacc

/-- for the model of the whole of `Validate`: whatever the other stages say, in either mode, a document it accepts has passed
    the schema pass (the model of the validator tree, code as it is, with the Swagger strictness options, over the regenerated
    Swagger 2.0 schema term) without an error -/
theorem C02_whole_model_accepted_passed_schema (cont : Bool) (O : Oracles) (raw : JVal) (v0 v : View)
    (hacc : (specModel cont O raw v0 v).1.errors = []) : (schemaPassRes O raw).errors = [] :=
  C02_pipeline cont (modelStages O raw v0 v) hacc

def O0 : Oracles :=
  { re := fun p s => some (p == "^/" && s == "/a" || p == "^([0-9]{3})$|^(default)$" && s == "200"),
    fmtKnown := fun _ => false, fmt := fun _ _ => false,
    isIntTol := fun n => n.isInt, mulOfTol := fun n m => (n / m).isInt }

def docNullResponse : JVal :=
  .obj [("swagger", .str "2.0"), ("info", .obj [("title", .str "t"), ("version", .str "1")]),
        ("paths", .obj [("/a", .obj [("get", .obj [("responses", .obj [("200", .null)])])])])]

/-- `"responses": {"200": null}`: the model of the code as it is accepts it, draft 4 does not
    (`null` matches neither alternative of the `oneOf` in `responseValue`), and closing the null
    early exit makes the model reject it. (`+kernel`, here and in the last example, for the reason given at
    `swagger_wf_asIs`: both run a validator over the table.) -/
theorem C02_witness_null_response :
    (validateF Cfg.asIs {} O0 swaggerDefs 8 swaggerRoot "" docNullResponse).errors.isEmpty = true
    ∧ validF O0 swaggerDefs 8 swaggerRoot docNullResponse = false
    ∧ (validateF { Cfg.asIs with nullSkipsComposition := false } {} O0 swaggerDefs 8 swaggerRoot "" docNullResponse).errors.isEmpty = false := by
  decide +kernel

/-! ### non-vacuity -/
def docMinimal : JVal :=
  .obj [("swagger", .str "2.0"), ("info", .obj [("title", .str "t"), ("version", .str "1")]), ("paths", .obj [])]
example : adm asIsC02 docMinimal = true := by decide
example : validF O0 swaggerDefs 8 swaggerRoot docMinimal = true := by decide +kernel

end VM.C02
