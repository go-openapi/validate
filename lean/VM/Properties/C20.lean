/-
  C20 — Results combine as ordered sets of messages with additive match counts.
  The facts about `addMsgs` and about the merges as folds are in VM/Proofs/ResultLemmas.lean.
-/
import VM.Proofs.ResultLemmas
namespace VM.C20
open VM Spec

/-! #### AddErrors / AddWarnings -/

/-- never duplicates a message -/
theorem addErrors_nodup (r : Res) (es : List (Option Msg)) (h : r.errors.Nodup) :
    (r.addErrors es).errors.Nodup := addMsgs_nodup h es

theorem addWarnings_nodup (r : Res) (es : List (Option Msg)) (h : r.warnings.Nodup) :
    (r.addWarnings es).warnings.Nodup := addMsgs_nodup h es

/-- never loses a distinct message and invents none -/
theorem addErrors_no_loss (r : Res) (es : List (Option Msg)) (m : Msg) :
    m ∈ (r.addErrors es).errors ↔ m ∈ r.errors ∨ some m ∈ es := mem_addMsgs _ _ _

theorem addWarnings_no_loss (r : Res) (es : List (Option Msg)) (m : Msg) :
    m ∈ (r.addWarnings es).warnings ↔ m ∈ r.warnings ∨ some m ∈ es := mem_addMsgs _ _ _

/-- preserves first-occurrence order: the outcome *is* the ordered-set union -/
theorem addErrors_first_occurrence_order (r : Res) (es : List (Option Msg)) :
    (r.addErrors es).errors = ordUnion r.errors (es.filterMap id) := addMsgs_eq_ordUnion _ _

theorem addWarnings_first_occurrence_order (r : Res) (es : List (Option Msg)) :
    (r.addWarnings es).warnings = ordUnion r.warnings (es.filterMap id) := addMsgs_eq_ordUnion _ _

/-- the other category and the count are untouched -/
theorem addErrors_frame (r : Res) (es : List (Option Msg)) :
    (r.addErrors es).warnings = r.warnings ∧ (r.addErrors es).mc = r.mc := ⟨rfl, rfl⟩
theorem addWarnings_frame (r : Res) (es : List (Option Msg)) :
    (r.addWarnings es).errors = r.errors ∧ (r.addWarnings es).mc = r.mc := ⟨rfl, rfl⟩

/-- nil errors are ignored, wherever they stand in the argument list -/
theorem nil_ignored (cur : List Msg) (es : List (Option Msg)) :
    addMsgs cur es = addMsgs cur ((es.filterMap id).map some) := by
  simp [addMsgs_eq_ordUnion, List.filterMap_map, Function.comp_def]

/-! #### Merge

  `Merge` computes the ordered-set union of the receiver's messages with those of all non-nil
  operands, in operand order; the theorems below read that closed form off. -/

theorem merge_errors_eq (r : Res) (os : List (Option Res)) :
    (r.merge os).errors = addMsgs r.errors (((os.filterMap id).flatMap (·.errors)).map some) :=
  r.merge_eq_foldl os ▸ foldl_addMsgs (fun _ _ => rfl) r _

theorem merge_warnings_eq (r : Res) (os : List (Option Res)) :
    (r.merge os).warnings = addMsgs r.warnings (((os.filterMap id).flatMap (·.warnings)).map some) :=
  r.merge_eq_foldl os ▸ foldl_addMsgs (fun _ _ => rfl) r _

/-- nil operands are ignored -/
theorem merge_nil_ignored (r : Res) (os : List (Option Res)) :
    r.merge os = r.merge ((os.filterMap id).map some) := by
  simp [Res.merge_eq_foldl, List.filterMap_map]

/-- merging adds match counts -/
theorem merge_counts_add (r : Res) (os : List (Option Res)) :
    (r.merge os).mc = r.mc + ((os.filterMap id).map (·.mc)).sum :=
  r.merge_eq_foldl os ▸ foldl_mc (fun _ _ => rfl) r _

/-- merge neither loses nor invents errors -/
theorem merge_errors (r : Res) (os : List (Option Res)) (m : Msg) :
    m ∈ (r.merge os).errors ↔ m ∈ r.errors ∨ ∃ o, some o ∈ os ∧ m ∈ o.errors := by
  rw [merge_errors_eq, mem_addMsgs_some, mem_flatMap_operands]

theorem merge_warnings (r : Res) (os : List (Option Res)) (m : Msg) :
    m ∈ (r.merge os).warnings ↔ m ∈ r.warnings ∨ ∃ o, some o ∈ os ∧ m ∈ o.warnings := by
  rw [merge_warnings_eq, mem_addMsgs_some, mem_flatMap_operands]

theorem merge_nodup (r : Res) (os : List (Option Res))
    (he : r.errors.Nodup) (hw : r.warnings.Nodup) :
    (r.merge os).errors.Nodup ∧ (r.merge os).warnings.Nodup := by
  rw [merge_errors_eq, merge_warnings_eq]
  exact ⟨addMsgs_nodup he _, addMsgs_nodup hw _⟩

/-- the receiver's own messages stay first, in their order -/
theorem merge_keeps_prefix (r : Res) (os : List (Option Res)) :
    r.errors <+: (r.merge os).errors ∧ r.warnings <+: (r.merge os).warnings := by
  rw [merge_errors_eq, merge_warnings_eq]
  exact ⟨addMsgs_prefix _ _, addMsgs_prefix _ _⟩

/-! #### MergeAsErrors / MergeAsWarnings move every message to the named category -/

theorem foldl_moves_all (f : Res → Res → Res) {π ρ : Res → List Msg}
    (hπ : ∀ r o, π (f r o) = addMsgs (π r) ((o.errors ++ o.warnings).map some))
    (hρ : ∀ r o, ρ (f r o) = ρ r) (hm : ∀ r o, (f r o).mc = r.mc + o.mc)
    (r : Res) (os : List (Option Res)) (m : Msg) :
    (m ∈ π ((os.filterMap id).foldl f r) ↔
      m ∈ π r ∨ ∃ o, some o ∈ os ∧ (m ∈ o.errors ∨ m ∈ o.warnings))
    ∧ ρ ((os.filterMap id).foldl f r) = ρ r
    ∧ ((os.filterMap id).foldl f r).mc = r.mc + ((os.filterMap id).map (·.mc)).sum := by
  refine ⟨?_, foldl_frame hρ r _, foldl_mc hm r _⟩
  rw [foldl_addMsgs hπ, mem_addMsgs_some, mem_flatMap_operands]
  simp only [List.mem_append]

theorem mergeAsErrors_moves_all (r : Res) (os : List (Option Res)) (m : Msg) :
    (m ∈ (r.mergeAsErrors os).errors ↔
      m ∈ r.errors ∨ ∃ o, some o ∈ os ∧ (m ∈ o.errors ∨ m ∈ o.warnings))
    ∧ (r.mergeAsErrors os).warnings = r.warnings
    ∧ (r.mergeAsErrors os).mc = r.mc + ((os.filterMap id).map (·.mc)).sum :=
  r.mergeAsErrors_eq_foldl os ▸ foldl_moves_all Res.mergeAsErrorsOne (π := (·.errors)) (ρ := (·.warnings))
    (fun _ _ => by rw [List.map_append, addMsgs_append]; rfl) (fun _ _ => rfl) (fun _ _ => rfl) r os m

theorem mergeAsWarnings_moves_all (r : Res) (os : List (Option Res)) (m : Msg) :
    (m ∈ (r.mergeAsWarnings os).warnings ↔
      m ∈ r.warnings ∨ ∃ o, some o ∈ os ∧ (m ∈ o.errors ∨ m ∈ o.warnings))
    ∧ (r.mergeAsWarnings os).errors = r.errors
    ∧ (r.mergeAsWarnings os).mc = r.mc + ((os.filterMap id).map (·.mc)).sum :=
  r.mergeAsWarnings_eq_foldl os ▸ foldl_moves_all Res.mergeAsWarningsOne (π := (·.warnings)) (ρ := (·.errors))
    (fun _ _ => by rw [List.map_append, addMsgs_append]; rfl) (fun _ _ => rfl) (fun _ _ => rfl) r os m

/-! #### Queries -/

/-- validity is exactly the absence of errors -/
theorem isValid_iff_no_errors (r : Res) : isValid (some r) = true ↔ r.errors = [] := by
  simp [isValid]

theorem hasErrors_eq_not_isValid (r : Option Res) : hasErrors r = !isValid r := by
  cases r <;> simp [hasErrors, isValid]

/-- all queries tolerate a nil result -/
theorem queries_nil_safe :
    isValid none = true ∧ hasErrors none = false ∧ hasWarnings none = false
      ∧ hasErrorsOrWarnings none = false := ⟨rfl, rfl, rfl, rfl⟩

/-- warnings alone never invalidate -/
theorem warnings_never_invalidate (r : Res) (ws : List (Option Msg)) :
    isValid (some (r.addWarnings ws)) = isValid (some r) := rfl

/-! #### Every finite operation sequence -/

def NodupAll (s : RState) : Prop :=
  ∀ r, some r ∈ s → r.errors.Nodup ∧ r.warnings.Nodup

/-- API operations: everything except the raw field write used to probe aliasing -/
def ROp.isApi : ROp → Bool
  | .setErr .. => false
  | _ => true

theorem nodupAll_set {s : RState} (h : NodupAll s) (i : Nat) (o : Option Res)
    (ho : ∀ r, o = some r → r.errors.Nodup ∧ r.warnings.Nodup) : NodupAll (s.set i o) := fun r hr =>
  (List.mem_or_eq_of_mem_set hr).elim (h r) (ho r ·.symm)

theorem getSlot_mem {s : RState} {i : Nat} {r : Res} (h : getSlot s i = some r) : some r ∈ s :=
  List.mem_of_getElem? (Option.join_eq_some_iff.1 h)

theorem nodupAll_modify {s : RState} (h : NodupAll s) (i : Nat) {F : Res → Res}
    (hF : ∀ r, r.errors.Nodup ∧ r.warnings.Nodup → (F r).errors.Nodup ∧ (F r).warnings.Nodup) :
    NodupAll (match getSlot s i with | some r => s.set i (some (F r)) | none => s) := by
  split
  · next r hr => exact nodupAll_set h i _ fun _ e => Option.some.inj e ▸ hF r (h r (getSlot_mem hr))
  · exact h

theorem mergeSeq_nodup (f : Res → Res → Res)
    (hf : ∀ r o, r.errors.Nodup ∧ r.warnings.Nodup → (f r o).errors.Nodup ∧ (f r o).warnings.Nodup)
    (s : RState) (i : Nat) (js : List Nat) (h : NodupAll s) : NodupAll (mergeSeq f s i js) := by
  induction js generalizing s with
  | nil => exact h
  | cons j js ih =>
    unfold mergeSeq
    split
    · next r o hr _ => exact ih _ (nodupAll_set h i _ fun _ e => Option.some.inj e ▸ hf r o (h r (getSlot_mem hr)))
    · exact ih _ h

/-- In every state reachable by API operations from a duplicate-free state, no result holds a
    message twice. (All finite sequences: induction over the operation list.) -/
theorem run_nodup (s : RState) (ops : List ROp) (hops : ∀ op ∈ ops, ROp.isApi op = true)
    (h : NodupAll s) : NodupAll (rrun s ops) := by
  induction ops generalizing s with
  | nil => exact h
  | cons op ops ih =>
    have hop := hops op (List.mem_cons_self ..)
    refine ih _ (fun o ho => hops o (List.mem_cons_of_mem _ ho)) ?_
    cases op with
    | addErrors i es => exact nodupAll_modify h i fun _ hr => ⟨addMsgs_nodup hr.1 _, hr.2⟩
    | addWarnings i es => exact nodupAll_modify h i fun _ hr => ⟨hr.1, addMsgs_nodup hr.2 _⟩
    | merge i js =>
      exact mergeSeq_nodup Res.mergeOne (fun _ _ hr => ⟨addMsgs_nodup hr.1 _, addMsgs_nodup hr.2 _⟩) s i js h
    | mergeAsErrors i js =>
      exact mergeSeq_nodup Res.mergeAsErrorsOne (fun _ _ hr => ⟨addMsgs_nodup (addMsgs_nodup hr.1 _) _, hr.2⟩) s i js h
    | mergeAsWarnings i js =>
      exact mergeSeq_nodup Res.mergeAsWarningsOne (fun _ _ hr => ⟨hr.1, addMsgs_nodup (addMsgs_nodup hr.2 _) _⟩) s i js h
    | inc i => exact nodupAll_modify h i fun _ hr => hr
    | setErr i k m => cases hop
    | fresh i => exact nodupAll_set h i _ fun _ e => Option.some.inj e ▸ ⟨List.nodup_nil, List.nodup_nil⟩
    | setNil i => exact nodupAll_set h i _ nofun

def ROp.receiver : ROp → Nat
  | .addErrors i _ | .addWarnings i _ | .merge i _ | .mergeAsErrors i _ | .mergeAsWarnings i _
  | .inc i | .setErr i _ _ | .fresh i | .setNil i => i

theorem getSlot_set_ne (s : RState) (i k : Nat) (v : Option Res) (h : k ≠ i) :
    getSlot (s.set i v) k = getSlot s k := by
  unfold getSlot; rw [List.getElem?_set_ne (Ne.symm h)]

theorem getSlot_modify (s : RState) {i k : Nat} (F : Res → Res) (h : k ≠ i) :
    getSlot (match getSlot s i with | some r => s.set i (some (F r)) | none => s) k = getSlot s k := by
  split
  · exact getSlot_set_ne _ _ _ _ h
  · rfl

theorem mergeSeq_frame (f : Res → Res → Res) (s : RState) (i k : Nat) (js : List Nat) (h : k ≠ i) :
    getSlot (mergeSeq f s i js) k = getSlot s k := by
  induction js generalizing s with
  | nil => rfl
  | cons j js ih =>
    unfold mergeSeq
    split
    · rw [ih, getSlot_set_ne _ _ _ _ h]
    · exact ih _

/-- Frame / no aliasing at the level of values: an operation whose receiver is slot `i`
    leaves every other slot exactly as it was — in particular a result that was merged into
    another one can be changed afterwards without altering the merged result.
    (That Go's slices do realise value semantics here is what the correspondence check
    probes with `setErr` and post-merge mutations.) -/
theorem later_changes_do_not_alter_others (s : RState) (op : ROp) (k : Nat)
    (h : k ≠ ROp.receiver op) : getSlot (rstep s op) k = getSlot s k := by
  cases op with
  | addErrors | addWarnings | inc | setErr => exact getSlot_modify s _ h
  | merge | mergeAsErrors | mergeAsWarnings => exact mergeSeq_frame _ _ _ _ _ h
  | fresh | setNil => exact getSlot_set_ne _ _ _ _ h

/-! non-vacuity: the hypotheses are met by a non-trivial state -/
private def m (t : String) : Msg := { tag := t }

example : NodupAll [some { errors := [m "a", m "b"], warnings := [m "w"], mc := 3 }, none, some {}] := by
  intro r hr
  simp at hr
  rcases hr with rfl | rfl <;> simp [m]

example : rrun [some { errors := [m "a"] }, some { errors := [m "a", m "b"], warnings := [m "w"], mc := 2 }]
    [.merge 0 [1, 0], .addErrors 1 [none, some (m "z")]]
    = [some { errors := [m "a", m "b"], warnings := [m "w"], mc := 4 },
       some { errors := [m "a", m "b", m "z"], warnings := [m "w"], mc := 2 }] := by decide

end VM.C20
