/-
  C16 — parameter, header and items validators follow Swagger simple-schema semantics.
-/
import VM.Impl.Simple
import VM.Proofs.SimpleProof
import VM.Expect
namespace VM.C16
open VM GoVal Simple Generated Expect

/-- T1: the three chains are type → string → format → number → slice → enum, in that order -/
theorem chain_order :
    (validatorOrder.filter (fun c => c.2.1 == "6")).all (fun c => normChain c.2.2 == simpleChain) = true
    ∧ (validatorOrder.filter (fun c => c.2.1 == "6")).length = 3 := by decide

/-- a nil value is not validated -/
theorem nil_not_validated (O : Oracles) (root : Root) (s : SSchema) (p : Bool) :
    validate O root s .nil p = (true, false) := rfl

/-- first-error exit: a type error decides the verdict, whatever the later groups would say -/
theorem type_error_exits (O : Oracles) (p : Bool) (fuel : Nat) (root : Root) (rootFmt : String) (s : SSchema) (v : GoVal)
    (h : typeBad O s.base v = true) :
    validateAux O p (fuel + 1) root rootFmt s v = (false, false) := by
  obtain ⟨b, req, ae, items⟩ := s
  rw [validateAux, if_pos (show typeBad O b v = true from h)]

/-- **C16, structure**: the chain composes its six slots, and the recursion through `items`, as the simple-schema
    specification composes its constraints — for every nesting depth — whenever the leaf checks agree at every
    (level, value) pair reached (`LeafAgree`: one Boolean equation per pair). -/
theorem C16_chain_composes (O : Oracles) (root : Root) (s : SSchema) (v : GoVal)
    (hA : LeafAgree O s.base.format (s.depth + 1) s v) :
    validate O root s v = (specValid O s v, false) := by
  cases v with
  | nil => rfl
  | _ => exact validateAux_eq_spec O _ _ root s _ nofun hA

/-- **C16 on the deviation-free fragment** (strings, booleans, signed and unsigned integers with integral bounds within int64,
    floats under exact float oracles — with a declared `integer` type: integral values and bounds within int64 —, arrays
    of these nested to any depth, no `format`, enum members of the value's own kind): parameter, header and items
    validators accept exactly what the simple-schema specification accepts, and do not panic. The listed deviations all
    lie outside this fragment (C13 fractional bounds / unsigned and float carriers, C14 enum conversions and
    cross-type equality, C16 formats). -/
theorem C16_fragment (O : Oracles) (root : Root) (s : SSchema) (v : GoVal)
    (h0 : O.fmtKnown "" = false) (hroot : s.base.format = "") (hF : Frag O (s.depth + 1) s v) :
    validate O root s v = (specValid O s v, false) :=
  C16_chain_composes O root s v (frag_leafAgree O _ (hroot ▸ h0) h0 _ s v hF)

/-- the fragment is inhabited by a two-level case: an array (1-3 unique items) of arrays of bounded integers -/
def sNested : SSchema :=
  .mk { types := ["array"], minItems := some 1, maxItems := some 3 } true false
    (some (.mk { types := ["array"], uniqueItems := false } false false
      (some (.mk { types := ["integer"], minimum := some 0, maximum := some 10, multipleOf := some 2,
                   enum := [.num 2, .num 4, .num 11] } false false none))))
def vNested : GoVal := .slice "interface" false [.slice "interface" false [.int 32 2, .int 64 4], .slice "interface" false []]

example (O : Oracles) : Frag O (sNested.depth + 1) sNested vNested := by
  refine ⟨rfl, rfl, nofun, ?_⟩
  intro x hx _
  simp only [List.mem_cons, List.not_mem_nil, or_false] at hx
  rcases hx with rfl | rfl
  · refine ⟨rfl, rfl, nofun, ?_⟩
    intro y hy _
    simp only [List.mem_cons, List.not_mem_nil, or_false] at hy
    rcases hy with rfl | rfl <;>
      exact ⟨rfl, by decide, .ofInt 10 (by decide), .ofInt 0 (by decide), .ofInt 2 (by decide), by simp⟩
  · exact ⟨rfl, rfl, nofun, nofun⟩

/-- … and by what a JSON body delivers: float64 carriers against an `integer` parameter with integral bounds -/
def Oexact : Oracles :=
  { re := fun _ _ => some false, fmtKnown := fun _ => false, fmt := fun _ _ => false,
    isIntTol := fun n => n.isInt, mulOfTol := fun n m => (n / m).isInt }
def sIntParam : SSchema := .mk { types := ["integer"], minimum := some 0, maximum := some 10, multipleOf := some 2 } true false none
example : Frag Oexact (sIntParam.depth + 1) sIntParam (.float 64 4) :=
  ⟨rfl, ⟨fun _ => rfl, fun _ _ => rfl⟩, fun _ => ⟨fun _ => by decide, .ofInt 10 (by decide), .ofInt 0 (by decide), .ofInt 2 (by decide)⟩⟩

/-! witnesses of the open deviations (known findings) -/

def sArrDate : SSchema :=
  .mk { types := ["array"] } false false (some (.mk { types := ["string"], format := "date" } false false none))
def Odate : Oracles :=
  { re := fun _ _ => some false, fmtKnown := fun f => f == "date", fmt := fun _ s => s == "2020-01-01",
    isIntTol := fun n => n.isInt, mulOfTol := fun n m => (n / m).isInt }
def Odate0 : Oracles := { Odate with fmtKnown := fun f => f == "date" }
def notADate : GoVal := .slice "interface" false [.str "x".toUTF8.toList]

/-- the format of items is only looked at when the parameter/header itself carries a registered
    format: `items: {type: string, format: date}` accepts "x" -/
theorem witness_items_format_ignored :
    (validate Odate .param sArrDate notADate).1 = true ∧ specValid Odate sArrDate notADate = false := by
  -- `+kernel`: `"x".toUTF8` in `notADate` does not reduce in the elaborator
  decide +kernel

def sStrDate : SSchema := .mk { types := ["string"], format := "date" } false false none
/-- with a format, a slice passes the type check of a string parameter -/
theorem witness_format_bypasses_type :
    (validate Odate .param sStrDate (.slice "interface" false [])).1 = true
    ∧ specValid Odate sStrDate (.slice "interface" false []) = false := by decide

def sArrInt : SSchema := .mk { types := ["array"] } false false (some (.mk { types := ["integer"] } false false none))
/-- the pinned snapshot panicked on a nil element; the code as it is now skips it -/
theorem witness_nil_element_fixed :
    (validate Odate .param sArrInt (.slice "interface" false [.nil]) true).2 = true
    ∧ validate Odate .param sArrInt (.slice "interface" false [.nil]) = (true, false) := by decide

end VM.C16
