/-
  C10 — spec validation is deterministic, monotone, and keeps warnings apart.
  Property theorems; helper lemmas in VM/Proofs/PipelineProof.lean.
-/
import VM.Proofs.PipelineProof
import VM.Impl.SpecRules
import VM.Generated.SpecFacts
import VM.Impl.SpecModel
namespace VM.C10
open VM Sw

/-! ### T1: the pipeline model is the pipeline of the source; no early exit from a map range -/

/-- the order of merges and early returns that `runStages` encodes -/
def expectedPipeline : List String :=
  ["errs.Merge:schv.Validate(obj)", "return-if:!s.Options.ContinueOnErrors && errs.HasErrors()",
   "errs.Merge:s.validateReferencesValid()", "return-if:!s.Options.ContinueOnErrors && errs.HasErrors()",
   "errs.Merge:s.validateDuplicateOperationIDs()", "errs.Merge:s.validateDuplicatePropertyNames()",
   "errs.Merge:s.validateParameters()", "errs.Merge:s.validateItems()", "errs.Merge:s.validateRequiredDefinitions()",
   "return-if:!s.Options.ContinueOnErrors && errs.HasErrors()",
   "errs.Merge:df.Validate()", "errs.Merge:ex.Validate()", "errs.Merge:s.validateNonEmptyPathParamNames()",
   "errs.Merge:s.validateReferenced()", "return"]

theorem pipeline_as_modelled : Generated.pipeline = expectedPipeline := rfl

theorem deferred_as_modelled :
    Generated.pipelineDeferred = ["errs.MergeAsWarnings(warnings)", "warnings.AddErrors(errs.Warnings...)"] := rfl

/-- every range loop of the spec-validation files that can be left early ranges over a slice
    (sorted names, parameters, allOf members …), never over a map: what a stop-early run reports
    does not depend on Go's map order -/
theorem exit_ranges_over_slices : Generated.exitRanges.all (fun e => e.cls == "slice") = true := by decide

/-- the extractor still sees the two early-exit loops that `fix:` commits made range over sorted `names`
    (spec.go:235, spec.go:594) -/
theorem sorted_loops_seen :
    (Generated.exitRanges.filter fun e => e.expr == "names").length = 2 := by decide

/-- **Monotone.** Every error reported when stopping early is also reported with
    continue-on-errors — for any stage results, provided the one stage that stops early by
    itself (`validateRequiredDefinitions`) reports, when stopping, a subset of what it reports
    when continuing (`requiredDefs_stop_subset` below shows that for the model of that loop). -/
theorem C10_monotone (s : Stages)
    (hreq : ∀ m ∈ (s.requiredDefs false).errors, m ∈ (s.requiredDefs true).errors) :
    ∀ m ∈ (runStages false s).errors, m ∈ (runStages true s).errors := by
  intro m hm
  obtain ⟨o, ho, hmo⟩ := mem_runStages_errors hm
  -- the stage lists of the two runs differ in one entry
  have hall (c : Bool) : s.all c
      = [s.schemaPass, s.refsValid, s.dupIds, s.dupProps, s.params, s.items] ++ s.requiredDefs c :: s.late := rfl
  rw [mem_runStages_true_errors, hall true]
  rcases List.mem_append.mp (hall false ▸ ho) with ho | ho
  · exact ⟨o, List.mem_append_left _ ho, hmo⟩
  · rcases List.mem_cons.mp ho with rfl | ho
    · exact ⟨_, List.mem_append_right _ List.mem_cons_self, hreq m hmo⟩
    · exact ⟨o, List.mem_append_right _ (List.mem_cons_of_mem _ ho), hmo⟩

/-- the verdict is "no errors": warnings play no part in it -/
theorem C10_verdict_is_no_errors (cont : Bool) (s : Stages) :
    isValid (some (specValidate cont s).1) = (specValidate cont s).1.errors.isEmpty := rfl

def dropW (r : Res) : Res := { r with warnings := [] }

def _root_.VM.Sw.Stages.dropWarnings (s : Stages) : Stages :=
  { schemaPass := dropW s.schemaPass, refsValid := dropW s.refsValid, dupIds := dropW s.dupIds,
    dupProps := dropW s.dupProps, params := dropW s.params, items := dropW s.items,
    requiredDefs := fun c => dropW (s.requiredDefs c), defaults := dropW s.defaults,
    examples := dropW s.examples, pathNames := dropW s.pathNames, referenced := dropW s.referenced }

theorem dropW_mergeAll (r : Res) (os : List Res) : dropW (mergeAll r os) = mergeAll (dropW r) (os.map dropW) := by
  induction os generalizing r with
  | nil => rfl
  | cons o os ih => exact ih (r.mergeOne o)

/-- dropping the warnings of every stage drops those of the outcome and changes nothing else: the early returns look at the
    errors only, and `mergeOne` keeps the two kinds apart -/
theorem dropW_runStages (cont : Bool) (s : Stages) : dropW (runStages cont s) = runStages cont s.dropWarnings := by
  -- write the merges on the right as `dropW` of those on the left; the tests then agree, `dropW` keeping the errors
  have h2 : (Res.mergeOne {} s.dropWarnings.schemaPass).mergeOne s.dropWarnings.refsValid
      = dropW ((Res.mergeOne {} s.schemaPass).mergeOne s.refsValid) := rfl
  have h3 (r : Res) : mergeAll (dropW r) (s.dropWarnings.middle cont) = dropW (mergeAll r (s.middle cont)) :=
    (dropW_mergeAll r (s.middle cont)).symm
  have h4 (r : Res) : mergeAll (dropW r) s.dropWarnings.late = dropW (mergeAll r s.late) := (dropW_mergeAll r s.late).symm
  simp only [runStages, h2, h3, h4, apply_ite dropW]
  rfl

/-- **Warnings alone never make a document invalid.** The errors `Validate` ends with — hence
    the verdict and every early return — are the same when every warning of every stage is
    removed. -/
theorem C10_warnings_never_invalidate (cont : Bool) (s : Stages) :
    (specValidate cont s).1.errors = (specValidate cont s.dropWarnings).1.errors :=
  by rw [specValidate_eq, specValidate_eq, ← dropW_runStages]; rfl

/-- **Warnings apart.** The separately returned result holds, as its errors, exactly the
    warnings attached to the main result (same messages, same order) and nothing else. -/
theorem C10_returned_warnings_eq (cont : Bool) (s : Stages) :
    (specValidate cont s).2.errors = (specValidate cont s).1.warnings
      ∧ (specValidate cont s).2.warnings = [] := by
  rw [specValidate_eq]; exact ⟨rfl, rfl⟩

/-- no message is reported twice -/
theorem C10_no_duplicates (cont : Bool) (s : Stages) :
    (specValidate cont s).1.errors.Nodup ∧ (specValidate cont s).1.warnings.Nodup := by
  rw [specValidate_eq]; exact runStages_nodup cont s

/-! ### the rules: the reported set does not depend on the order Go ranges over its maps

    Each of these loops maps its list to messages one element at a time (`flatMap`, `filterMap`), so a permutation of the
    list permutes the messages (`List.Perm.flatMap_right`, `List.Perm.filterMap`). -/

/-- `validateRequiredDefinitions`, continue-on-errors: any order of the definitions -/
theorem requiredDefs_perm (O : Oracles) (defs defs' : List (String × Schema)) (h : defs.Perm defs') (m : Msg) :
    m ∈ requiredDefinitionErrsOf O defs ↔ m ∈ requiredDefinitionErrsOf O defs' :=
  (h.flatMap_right _).mem_iff

theorem requiredNamesStop_subset (O : Oracles) (d : String) (s : Schema) (names : List String) (m : Msg)
    (hm : m ∈ (requiredNamesStop O d s names).1) : ∃ pn ∈ names, m ∈ requiredPropErrs O pn d 64 s := by
  induction names with
  | nil => cases hm
  | cons pn rest ih =>
    rw [requiredNamesStop] at hm
    split at hm
    · exact (ih hm).imp fun _ h => ⟨List.mem_cons_of_mem _ h.1, h.2⟩
    · exact ⟨pn, List.mem_cons_self, hm⟩

/-- stopping early reports a subset of what continuing reports, whatever the order -/
theorem requiredDefs_stop_subset (O : Oracles) (defs : List (String × Schema)) (m : Msg)
    (hm : m ∈ requiredDefinitionErrsStop O defs) : m ∈ requiredDefinitionErrsOf O defs := by
  induction defs with
  | nil => cases hm
  | cons ds rest ih =>
    rw [requiredDefinitionErrsStop] at hm
    rw [requiredDefinitionErrsOf, List.flatMap_cons, List.mem_append]
    split at hm
    · exact .inl (List.mem_flatMap.mpr (requiredNamesStop_subset O ds.1 ds.2 _ m hm))
    · exact .inr (ih hm)

/-- … and for any two orders of the definitions (the order Go ranges in is not the caller's) -/
theorem requiredDefs_stop_subset_perm (O : Oracles) (defs defs' : List (String × Schema)) (h : defs.Perm defs')
    (m : Msg) (hm : m ∈ requiredDefinitionErrsStop O defs) : m ∈ requiredDefinitionErrsOf O defs' :=
  (requiredDefs_perm O defs defs' h m).mp (requiredDefs_stop_subset O defs m hm)

/-- duplicate operation ids: any order of the operations -/
theorem dupOperationIDs_perm (v v' : View) (h : v.ops.Perm v'.ops) (m : Msg) :
    m ∈ dupOperationIDs v ↔ m ∈ dupOperationIDs v' := by
  have hids : ((v.ops.map effId).filter (· != "")).Perm ((v'.ops.map effId).filter (· != "")) := (h.map _).filter _
  have hc (k : String) : countOf k _ = countOf k _ := hids.count_eq k
  simp only [dupOperationIDs, List.mem_filterMap, List.mem_eraseDups, hids.mem_iff, hc]

/-- arrays-declare-items: any order of the operations -/
theorem itemsErrs_perm (O : Oracles) (defs : String → Option Schema) (v v' : View) (h : v.ops.Perm v'.ops) (m : Msg) :
    m ∈ itemsErrs O defs v ↔ m ∈ itemsErrs O defs v' :=
  (h.flatMap_right _).mem_iff

/-- parameter rules without the path-uniqueness option: any order of the operations -/
theorem parameterErrs_perm (O : Oracles) (v v' : View) (h : v.ops.Perm v'.ops) (hs : v.strict = false) (hs' : v'.strict = false)
    (m : Msg) : m ∈ parameterErrs O v ↔ m ∈ parameterErrs O v' := by
  simp only [parameterErrs, hs, hs', Bool.false_eq_true, ↓reduceIte, List.nil_append]
  exact (h.flatMap_right _).mem_iff

/-- empty placeholders: any order of the path keys -/
theorem pathNameErrs_perm (v v' : View) (h : v.pathKeys.Perm v'.pathKeys) (h1 : v.hasPaths = v'.hasPaths)
    (h2 : v.hasPathItems = v'.hasPathItems) (m : Msg) : m ∈ pathNameErrs v ↔ m ∈ pathNameErrs v' := by
  simp only [pathNameErrs, h1, h2, apply_ite (m ∈ ·), (h.filterMap _).mem_iff]

/-- **Monotone, for the whole model**: every error `Validate` reports when it stops at the first failing group is reported
    when it continues — for every raw document, view, regexp engine and format registry (no hypothesis left: the one stage
    that stops by itself is covered by `requiredDefs_stop_subset`). -/
theorem C10_whole_model_monotone (O : Oracles) (raw : JVal) (v0 v : View) :
    ∀ m ∈ (specModel false O raw v0 v).1.errors, m ∈ (specModel true O raw v0 v).1.errors := by
  simp only [specModel, specValidate_eq]
  exact C10_monotone _ (requiredDefs_stop_subset O v.defs)

/-- the separately returned warnings of the whole model are the warnings of its main result -/
theorem C10_whole_model_warnings (cont : Bool) (O : Oracles) (raw : JVal) (v0 v : View) :
    (specModel cont O raw v0 v).2.errors = (specModel cont O raw v0 v).1.warnings :=
  (C10_returned_warnings_eq cont (modelStages O raw v0 v)).1

def O0 : Oracles :=
  { re := fun _ _ => some false, fmtKnown := fun _ => false, fmt := fun _ _ => false,
    isIntTol := fun n => n.isInt, mulOfTol := fun n m => (n / m).isInt }

def reqSchema (name : String) : Schema := .mk { required := [name] } none [] none [] [] none [] [] [] [] none

/-- stopping early, two definitions each with an undefined required property: which one is
    reported depends on the order Go ranges over the definitions map -/
theorem C10_witness_required_break :
    requiredDefinitionErrsStop O0 [("A", reqSchema "x"), ("B", reqSchema "y")]
      ≠ requiredDefinitionErrsStop O0 [("B", reqSchema "y"), ("A", reqSchema "x")] := by decide

def opAt (p : String) : Op := { method := "GET", path := p }

/-- with the path-uniqueness option and three paths that overlap pairwise, the reported pairs
    depend on which path Go meets first -/
theorem C10_witness_overlap_order :
    (overlapErrs [opAt "/a/{x}", opAt "/a/{y}", opAt "/a/{z}"]).contains (mkMsg "pathOverlap" ["/a/{y}", "/a/{z}"]) = false
    ∧ (overlapErrs [opAt "/a/{y}", opAt "/a/{z}", opAt "/a/{x}"]).contains (mkMsg "pathOverlap" ["/a/{y}", "/a/{z}"]) = true := by
  decide +kernel  -- string comparisons: the elaborator's own evaluation would triple the cost

/-! ### non-vacuity -/
example : (requiredDefinitionErrsOf O0 [("A", reqSchema "x")]) ≠ [] := by decide
example : ∃ s : Stages, (runStages false s).errors ≠ (runStages true s).errors :=
  ⟨{ schemaPass := { errors := [mkMsg "a" []] }, dupIds := { errors := [mkMsg "b" []] } }, by decide⟩

end VM.C10
