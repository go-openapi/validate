/-
  C18 — applying defaults fills exactly the absent members that have a default.
  Theorems about `Post.applyDefaults` for an arbitrary list of recorded entries; the entries are
  tied to the code by the correspondence check (defaulted data of the real code = model =
  what `Spec.applies` allows), and to the specification by `PostProof.entriesF_sim`
  (`C18_added_are_applicable_defaults`, `C18_applicable_defaults_are_added`, `C18_repaired`).
-/
import VM.Impl.Post
import VM.Proofs.PostProof
import VM.Properties.C01
namespace VM.C18
open VM Post Impl Spec

/-- members that were present stay, in place, under their own names -/
theorem applyMembers_keys (es : List Entry) (pos : Post.Pos) (kvs : List (String × JVal)) :
    (applyMembers es pos kvs).map Prod.fst = kvs.map Prod.fst := by
  induction kvs with
  | nil => rfl
  | cons kv rest ih => simp only [applyMembers, List.map_cons, ih]

/-- a present scalar member keeps its value -/
theorem applyDefaults_scalar (es : List Entry) (pos : Post.Pos) (v : JVal)
    (h : match v with | .arr _ | .obj _ => False | _ => True) : applyDefaults es pos v = v := by
  cases v with
  | arr _ | obj _ => exact h.elim
  | _ => rfl

/-- the shape of a defaulted object: the old members (each defaulted in turn), then the added ones -/
theorem applyDefaults_obj (es : List Entry) (pos : Post.Pos) (kvs : List (String × JVal)) :
    applyDefaults es pos (.obj kvs) =
      .obj (applyMembers es pos kvs ++ (entryFields es pos).filterMap fun f =>
        if ahas f kvs then none else (firstDefault es pos f).map fun d => (f, d)) := rfl

/-- the members `applyDefaults` adds to an object at `pos` that has the members `kvs` (`applyDefaults_obj`) -/
def added (es : List Entry) (pos : Post.Pos) (kvs : List (String × JVal)) : List (String × JVal) :=
  (entryFields es pos).filterMap fun f => if ahas f kvs then none else (firstDefault es pos f).map fun d => (f, d)

section
variable {es : List Entry} {pos : Post.Pos}

theorem mem_entryFields {f : String} : f ∈ entryFields es pos ↔ ∃ e ∈ es, e.pos = pos ∧ e.field = f := by
  simp only [entryFields, List.mem_eraseDups, List.mem_map, List.mem_filter, beq_iff_eq, and_assoc]

theorem firstDefault_eq_some {f : String} {d : JVal} (h : firstDefault es pos f = some d) :
    ∃ e ∈ es, e.pos = pos ∧ e.field = f ∧ e.dflt = some d ∧ hasDefault e.dflt = true := by
  obtain ⟨e, he, hd⟩ := Option.bind_eq_some_iff.mp h
  have hp := List.find?_some he
  simp only [Bool.and_eq_true, beq_iff_eq] at hp
  exact ⟨e, List.mem_of_find?_eq_some he, hp.1.1, hp.1.2, hd, hp.2⟩

theorem exists_firstDefault {e : Entry} (he : e ∈ es) (hd : hasDefault e.dflt = true) :
    ∃ d, firstDefault es e.pos e.field = some d := by
  unfold firstDefault
  cases hf : es.find? fun e' => e'.pos == e.pos && e'.field == e.field && hasDefault e'.dflt with
  | none => exact (List.find?_eq_none.mp hf e he (by simp only [beq_self_eq_true, hd, Bool.and_self])).elim
  | some e' =>
    have hd' := (Bool.and_eq_true _ _ ▸ List.find?_some hf).2
    cases h : e'.dflt with
    | none => rw [h] at hd'; cases hd'
    | some d => exact ⟨d, h⟩

theorem mem_added {kvs : List (String × JVal)} {f : String} {d : JVal} :
    (f, d) ∈ added es pos kvs ↔ ahas f kvs = false ∧ firstDefault es pos f = some d := by
  rw [added, List.mem_filterMap]
  constructor
  · rintro ⟨f', _, h⟩
    split at h
    · cases h
    · next ha =>
      obtain ⟨d', hd, heq⟩ := Option.map_eq_some_iff.mp h
      cases heq
      exact ⟨Bool.not_eq_true _ ▸ ha, hd⟩
  · rintro ⟨ha, hd⟩
    obtain ⟨e, he, hp, hf, _⟩ := firstDefault_eq_some hd
    exact ⟨f, mem_entryFields.mpr ⟨e, he, hp, hf⟩, by rw [ha, hd]; rfl⟩

end

/-- every added member was absent, was reached by a schema, and holds a default declared by one
    of the schemas that reached it — nothing else appears -/
theorem added_members_justified (es : List Entry) (pos : Post.Pos) (kvs : List (String × JVal)) (f : String) (d : JVal)
    (h : (f, d) ∈ added es pos kvs) :
    ahas f kvs = false ∧ ∃ e ∈ es, e.pos = pos ∧ e.field = f ∧ e.dflt = some d ∧ hasDefault e.dflt = true :=
  (mem_added.mp h).imp_right firstDefault_eq_some

/-- every absent member that a schema reached with a default does get filled -/
theorem absent_with_default_filled (es : List Entry) (pos : Post.Pos) (kvs : List (String × JVal)) (e : Entry)
    (he : e ∈ es) (hp : e.pos = pos) (hd : hasDefault e.dflt = true) (ha : ahas e.field kvs = false) :
    ∃ d, (e.field, d) ∈ added es pos kvs :=
  (exists_firstDefault he hd).imp fun _ h => mem_added.mpr ⟨ha, hp ▸ h⟩

section
variable (cfg : Cfg) (O : Oracles)
  (hbound : cfg.addlItemsBound = false)
  (hO : cfg.floatTolerance = true → OExact O)
  (defs : String → Option Schema) (hdefs : DefsWf cfg defs) (n : Nat) (s : Schema)
  (hs : wf cfg (fun name => (defs name).isSome) s = true) (v : JVal) (hv : adm cfg v = true)
  (pos : Post.Pos) (kvs : List (String × JVal))
include hbound hO hdefs hs hv

/-- **C18 against the specification of applicable schemas, soundness**: every member added to the object at `pos` was
    absent and receives a default that an applicable schema declares for it. -/
theorem C18_added_are_applicable_defaults (f : String) (d : JVal)
    (h : (f, d) ∈ added (entriesF cfg O defs n s [] v) pos kvs) :
    ahas f kvs = false ∧ ∃ a ∈ appliesF O defs n s [] v, a.pos = pos ∧ a.field = f ∧ a.dflt = some d
      ∧ Spec.declaresDefault a.dflt = true := by
  obtain ⟨h1, e, he, h2, h3, h4, h5⟩ := added_members_justified _ pos kvs f d h
  exact ⟨h1, e, (PostProof.entriesF_sim cfg O hbound hO defs hdefs n s hs [] v hv e).mp he, h2, h3, h4,
    PostProof.hasDefault_eq _ ▸ h5⟩

/-- **completeness**: every absent member for which an applicable schema declares a default is filled -/
theorem C18_applicable_defaults_are_added (a : Spec.Applies)
    (ha : a ∈ appliesF O defs n s [] v) (hp : a.pos = pos) (hd : Spec.declaresDefault a.dflt = true)
    (habs : ahas a.field kvs = false) :
    ∃ d, (a.field, d) ∈ added (entriesF cfg O defs n s [] v) pos kvs :=
  absent_with_default_filled _ pos kvs a ((PostProof.entriesF_sim cfg O hbound hO defs hdefs n s hs [] v hv a).mpr ha) hp
    (PostProof.hasDefault_eq _ ▸ hd) habs

end

/-- the repaired configuration: every instance (both directions) -/
theorem C18_repaired (O : Oracles) (defs : String → Option Schema) (hdefs : DefsWf Cfg.repaired defs) (n : Nat) (s : Schema)
    (hs : wf Cfg.repaired (fun name => (defs name).isSome) s = true) (v : JVal)
    (pos : Post.Pos) (kvs : List (String × JVal)) :
    (∀ f d, (f, d) ∈ ((entryFields (entriesF Cfg.repaired O defs n s [] v) pos).filterMap fun f =>
        if ahas f kvs then none else (firstDefault (entriesF Cfg.repaired O defs n s [] v) pos f).map fun d => (f, d)) →
      ahas f kvs = false ∧ ∃ a ∈ appliesF O defs n s [] v, a.pos = pos ∧ a.field = f ∧ a.dflt = some d
        ∧ Spec.declaresDefault a.dflt = true)
    ∧ (∀ a ∈ appliesF O defs n s [] v, a.pos = pos → Spec.declaresDefault a.dflt = true → ahas a.field kvs = false →
      ∃ d, (a.field, d) ∈ (entryFields (entriesF Cfg.repaired O defs n s [] v) pos).filterMap fun f =>
        if ahas f kvs then none else (firstDefault (entriesF Cfg.repaired O defs n s [] v) pos f).map fun d => (f, d)) :=
  ⟨fun f d h => C18_added_are_applicable_defaults Cfg.repaired O rfl (fun h => by cases h) defs hdefs n s hs v
      (C01.adm_repaired v) pos kvs f d h,
   fun a ha hp hd habs => C18_applicable_defaults_are_added Cfg.repaired O rfl (fun h => by cases h) defs hdefs n s hs v
      (C01.adm_repaired v) pos kvs a ha hp hd habs⟩

/-! non-vacuity: a schema with a defaulted property under an anyOf alternative meets the hypotheses -/
def sPost : Schema :=
  .mk { types := ["object"] } none [] none
    [("a", .mk { types := ["integer"], default := some (.num 1) } none [] none [] [] none [] [] [] [] none)]
    [] none [] []
    [.mk {} none [] none [("b", .mk { default := some (.str "x") } none [] none [] [] none [] [] [] [] none)] [] none [] [] [] [] none]
    [] none
example : wf Cfg.repaired (fun _ => false) sPost = true := by decide
example : DefsWf Cfg.repaired (fun _ => none) := by intro _ _ h; cases h

example : jeq (applyDefaults [{ pos := [], field := "b", dflt := some (.num 7) }] [] (.obj [("a", .num 1)]))
    (.obj [("a", .num 1), ("b", .num 7)]) = true := by decide

end VM.C18
