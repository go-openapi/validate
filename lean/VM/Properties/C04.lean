/-
  C04 — object recycling never changes an outcome, whatever came before.

  (1) `recycling_invisible`: for every client program that keeps the ownership discipline, running
      it against pools that hand back arbitrary used objects (stale contents, arbitrary choice) gives
      the result of running it with a brand-new zeroed object per borrow.
  (2) the validators keep the discipline: (d1) every object is redeemed exactly as often as it was
      borrowed — `protocol_exactly_once`, for every tree shape, slot script and panic point, given
      the regenerated fact that slots are released before the child runs; (d2) constructors
      overwrite every field and `cleared()` resets every field — obligations on regenerated tables;
      (d3) nothing is read after the merge that redeemed it — regenerated table (static part) and
      scribbling on redeem (dynamic part); (d4) every `Redeem*` puts once and the shared empty
      result is never put.
-/
import VM.Proofs.PoolProof
import VM.Proofs.ProtocolProof
import VM.Expect
namespace VM.C04
open VM Generated Expect

/-- **Recycling is invisible to disciplined clients** — for every program, every chooser (which
    pooled object a borrow takes), every initial pool content related to the fresh heap by `Sim`. -/
theorem recycling_invisible {H : Type} [DecidableEq H] {R : Type} (p : Pool.Prog H R) (chooser : List (Option Nat))
    (L : Pool.Live H) (σ : Pool.PState H) (τ : H → Pool.Obj) (hd : Pool.Disciplined p L) (hs : Pool.Sim L σ τ) :
    Pool.runPool p chooser σ = Pool.runFresh p τ :=
  Pool.recycling_invisible p chooser L σ τ hd hs

/-- the empty pool simulates the empty heap: the theorem applies from process start -/
theorem initial_sim {H : Type} [DecidableEq H] :
    Pool.Sim (H := H) (fun _ => none) { phys := fun _ => 0, mem := fun _ _ => 0, free := [], next := 0 }
    (fun _ _ => 0) :=
  ⟨nofun, nofun, nofun, .nil, nofun, nofun⟩

/-- (d1) **exactly once**: whatever the tree shape, the slot script (which children are skipped,
    relinquished or run, which are built on the fly) and the panic point, every position is redeemed
    exactly as often as it was borrowed — when slots are released before the child runs. -/
theorem protocol_exactly_once (x : Protocol.Pos) (p : Protocol.Pos) (v : Protocol.VT) (k : Option Nat) :
    Protocol.cR x (Protocol.run true p v k).evs
      = Protocol.cB x (Protocol.borrowAll p v) + Protocol.cB x (Protocol.run true p v k).evs :=
  Protocol.run_bal x p v k

/-! The table facts (T1) below are sweeps over regenerated tables of strings. Where the sweep is long they are closed by
    `decide +kernel`: plain `decide` has the elaborator evaluate the string comparisons first and the kernel again, at three
    times the cost, and proves nothing more. -/

/-- T1: the source releases every child slot before running the child (what `run true` models) -/
theorem slots_released_before_call :
    slotOwners.all (fun f => redeemProtocol.any (fun r => r.func == f && r.nilBeforeCall && r.calls > 0)) = true := by
  decide +kernel

/-- T1: every slot owner redeems itself and its remaining children in a deferred call -/
theorem deferred_redeem_present :
    deferOwners.all (fun f => redeemProtocol.any (fun r => r.func == f && r.deferRedeem)) = true := by decide +kernel

/-- (d2) T1: every constructor of a recyclable type overwrites every field of the borrowed object -/
theorem ctor_overwrites_all : ctorFields.all ctorComplete = true := by decide +kernel

/-- T1: all thirteen recyclable validator types have such a constructor -/
theorem ctor_table_complete :
    recyclableTypes.all (fun t => ctorFields.any (fun c => c.type == t)) = true := by decide +kernel

/-- (d2) T1: `cleared()` resets every field of a borrowed result -/
theorem cleared_resets_all : clearedComplete clearedFields = true := by decide +kernel

/-- (d3, static part) T1: no pooled result is read after the merge/redeem that released it -/
theorem no_use_after_merge :
    useAfterMerge.all (fun u => harmlessUseAfterMerge.contains (u.1, u.2.1)) = true := by decide

/-- (d4) T1: each `Redeem*` calls `Put` exactly once, and `RedeemResult` lets the shared empty result go -/
theorem redeemFns_put_once : redeemFns.all (fun r => r.2.1 == 1) = true := by decide
theorem empty_result_guarded :
    (redeemFns.filter (fun r => r.1 == "resultsPool.RedeemResult")).all (fun r => r.2.2) = true
    ∧ (redeemFns.filter (fun r => r.1 == "resultsPool.RedeemResult")).length = 1 := by decide +kernel

/-! non-vacuity and the negative side -/

def okProg : Pool.Prog Nat Nat :=
  .borrow 0 (.write 0 0 5 (.read 0 0 fun v => .redeem 0 (.borrow 1 (.write 1 0 (v+1) (.read 1 0 fun u => .redeem 1 (.ret u))))))

example : Pool.Disciplined okProg (fun _ => none) := by simp [Pool.Disciplined, okProg, Pool.upd]

def σ0 : Pool.PState Nat := { phys := fun _ => 0, mem := fun _ _ => 0, free := [], next := 1 }
example : Pool.runPool okProg [none, some 0] σ0 = 6 := by decide

/-- a double redeem (what a panic caused before the `fix:` commit) lets two later borrows alias -/
def dblProg : Pool.Prog Nat Nat :=
  .borrow 0 (.redeem 0 (.redeem 0 (.borrow 1 (.borrow 2 (.write 1 0 7 (.write 2 0 9 (.read 1 0 fun v => .ret v)))))))

theorem witness_double_redeem_aliases :
    Pool.runFresh dblProg (fun _ _ => 0) = 7 ∧ Pool.runPool dblProg [none, some 0, some 0] σ0 = 9 := by decide

end VM.C04
