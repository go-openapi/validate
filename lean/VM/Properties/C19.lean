/-
  C19 — pruning removes exactly the members no schema describes.
  Theorems about `Post.prune` for an arbitrary list of recorded entries (whatever the validator
  tree produced); the entries themselves are tied to the code by the correspondence check, which
  compares the pruned data of the real code with `prune (entries …)` and with the specification
  `Spec.applies`; against that specification: `C19_member_remains_iff_described`, `C19_repaired` (by `PostProof.entriesF_sim`).
-/
import VM.Impl.Post
import VM.Proofs.PostProof
import VM.Properties.C01
namespace VM.C19
open VM Post Impl Spec

/-- the members that remain, in order: those some schema reached -/
theorem pruneMembers_keys_eq (es : List Entry) (pos : Post.Pos) (kvs : List (String × JVal)) :
    (pruneMembers es pos kvs).map Prod.fst = (kvs.map Prod.fst).filter (hasEntry es pos) := by
  induction kvs with
  | nil => rfl
  | cons kv rest ih =>
    simp only [pruneMembers, List.map_cons, List.filter_cons]
    split <;> simp only [List.map_cons, ih]

/-- at every object, a member remains exactly when some schema reached it -/
theorem pruneMembers_keys (es : List Entry) (pos : Post.Pos) (kvs : List (String × JVal)) (k : String) :
    k ∈ (pruneMembers es pos kvs).map Prod.fst ↔ (k ∈ kvs.map Prod.fst ∧ hasEntry es pos k = true) := by
  rw [pruneMembers_keys_eq, List.mem_filter]

mutual
/-- pruning already pruned data (against the same recorded entries) removes nothing more -/
theorem prune_idempotent (es : List Entry) (pos : Post.Pos) (v : JVal) :
    prune es pos (prune es pos v) = prune es pos v := by
  match v with
  | .arr xs => exact congrArg JVal.arr (pruneElems_idempotent es pos 0 xs)
  | .obj kvs => exact congrArg JVal.obj (pruneMembers_idempotent es pos kvs)
  | .null | .bool _ | .num _ | .str _ => rfl
theorem pruneMembers_idempotent (es : List Entry) (pos : Post.Pos) (kvs : List (String × JVal)) :
    pruneMembers es pos (pruneMembers es pos kvs) = pruneMembers es pos kvs := by
  match kvs with
  | [] => rfl
  | (k, x) :: rest =>
    simp only [pruneMembers]
    split
    · next h => simp only [pruneMembers, h, ↓reduceIte, prune_idempotent es (pos ++ [k]) x, pruneMembers_idempotent es pos rest]
    · exact pruneMembers_idempotent es pos rest
theorem pruneElems_idempotent (es : List Entry) (pos : Post.Pos) (i : Nat) (xs : List JVal) :
    pruneElems es pos i (pruneElems es pos i xs) = pruneElems es pos i xs := by
  match xs with
  | [] => rfl
  | x :: rest => simp only [pruneElems, prune_idempotent es (pos ++ [idxSeg i]) x, pruneElems_idempotent es pos (i + 1) rest]
end

/-- array elements are never removed, only looked into -/
theorem pruneElems_length (es : List Entry) (pos : Post.Pos) (i : Nat) (xs : List JVal) :
    (pruneElems es pos i xs).length = xs.length := by
  induction xs generalizing i with
  | nil => rfl
  | cons x rest ih => simp only [pruneElems, List.length_cons, ih]

/-- scalars are untouched -/
theorem prune_scalar (es : List Entry) (pos : Post.Pos) (v : JVal)
    (h : match v with | .arr _ | .obj _ => False | _ => True) : prune es pos v = v := by
  cases v with
  | arr _ | obj _ => exact h.elim
  | _ => rfl

theorem hasEntry_iff (es : List Entry) (pos : Post.Pos) (k : String) :
    hasEntry es pos k = true ↔ ∃ e ∈ es, e.pos = pos ∧ e.field = k := by
  simp only [hasEntry, List.any_eq_true, Bool.and_eq_true, beq_iff_eq]

/-- **C19 against the specification of applicable schemas.** For every schema of the vocabulary, definitions table,
    amount of `$ref` fuel and admissible instance (any instance for the repaired configuration), pruning with the entries
    the validator tree records keeps a member of the object at `pos` exactly when it is present and some applicable schema
    describes it (through properties, pattern properties, additionalProperties, every allOf member, the selected anyOf /
    oneOf alternative, schema dependencies of present keys, at any depth) — nothing else is removed, nothing else is kept. -/
theorem C19_member_remains_iff_described (cfg : Cfg) (O : Oracles)
    (hbound : cfg.addlItemsBound = false)
    (hO : cfg.floatTolerance = true → OExact O)
    (defs : String → Option Schema) (hdefs : DefsWf cfg defs) (n : Nat) (s : Schema)
    (hs : wf cfg (fun name => (defs name).isSome) s = true) (v : JVal) (hv : adm cfg v = true)
    (pos : Post.Pos) (kvs : List (String × JVal)) (k : String) :
    k ∈ (pruneMembers (entriesF cfg O defs n s [] v) pos kvs).map Prod.fst
      ↔ (k ∈ kvs.map Prod.fst ∧ ∃ a ∈ appliesF O defs n s [] v, a.pos = pos ∧ a.field = k) := by
  rw [pruneMembers_keys, hasEntry_iff]
  have hsim := PostProof.entriesF_sim cfg O hbound hO defs hdefs n s hs [] v hv
  simp only [hsim _]

/-- the repaired configuration: every instance -/
theorem C19_repaired (O : Oracles) (defs : String → Option Schema) (hdefs : DefsWf Cfg.repaired defs) (n : Nat) (s : Schema)
    (hs : wf Cfg.repaired (fun name => (defs name).isSome) s = true) (v : JVal)
    (pos : Post.Pos) (kvs : List (String × JVal)) (k : String) :
    k ∈ (pruneMembers (entriesF Cfg.repaired O defs n s [] v) pos kvs).map Prod.fst
      ↔ (k ∈ kvs.map Prod.fst ∧ ∃ a ∈ appliesF O defs n s [] v, a.pos = pos ∧ a.field = k) :=
  C19_member_remains_iff_described Cfg.repaired O rfl (fun h => by cases h) defs hdefs n s hs v (C01.adm_repaired v) pos kvs k

/-! non-vacuity: a schema with a defaulted property under an anyOf alternative meets the hypotheses -/
def sPost : Schema :=
  .mk { types := ["object"] } none [] none
    [("a", .mk { types := ["integer"], default := some (.num 1) } none [] none [] [] none [] [] [] [] none)]
    [] none [] []
    [.mk {} none [] none [("b", .mk { default := some (.str "x") } none [] none [] [] none [] [] [] [] none)] [] none [] [] [] [] none]
    [] none
example : wf Cfg.repaired (fun _ => false) sPost = true := by decide
example : DefsWf Cfg.repaired (fun _ => none) := by intro _ _ h; cases h

example : jeq (prune [{ pos := [], field := "a", dflt := none }] [] (.obj [("a", .num 1), ("b", .num 2)]))
    (.obj [("a", .num 1)]) = true := by decide

end VM.C19
