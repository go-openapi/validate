/-
  C13 — numeric verdicts depend on the number, not on the Go type that carries it.

  The theorems are about `VM.Values.native*`, which *call* the definitions regenerated from
  values.go on every run (VM/Generated/Values.lean): a change of `MaximumInt`, `MinimumUint`,
  `MultipleOfInt`, … changes what is proved here.
-/
import VM.Proofs.ValuesProof
namespace VM.C13
open VM Values Generated

/-- T1: every whitelisted helper still has the shape the translator understands -/
theorem translator_complete : untranslated = [] := by decide

/-! #### exact for integral bounds, whatever the carrier -/

theorem native_int_max_exact (n : Nat) (a b : Int) (e : Bool) :
    nativeMax (.int n) (a : Rat) (b : Rat) e = specMax (a : Rat) (b : Rat) e := nativeMax_intCast _ a b e nofun
theorem native_int_min_exact (n : Nat) (a b : Int) (e : Bool) :
    nativeMin (.int n) (a : Rat) (b : Rat) e = specMin (a : Rat) (b : Rat) e := nativeMin_intCast _ a b e nofun
theorem native_uint_max_exact (n : Nat) (a : Nat) (b : Int) (e : Bool) :
    nativeMax (.uint n) ((a : Int) : Rat) (b : Rat) e = specMax ((a : Int) : Rat) (b : Rat) e :=
  nativeMax_intCast _ a b e fun _ _ => Int.natCast_nonneg a
theorem native_uint_min_exact (n : Nat) (a : Nat) (b : Int) (e : Bool) :
    nativeMin (.uint n) ((a : Int) : Rat) (b : Rat) e = specMin ((a : Int) : Rat) (b : Rat) e :=
  nativeMin_intCast _ a b e fun _ _ => Int.natCast_nonneg a
/-- float carriers: exact for every value and every bound (fractional, negative, huge) -/
theorem native_float_max_exact (n : Nat) (v b : Rat) (e : Bool) :
    nativeMax (.float n) v b e = specMax v b e := maximum_iff v b e
theorem native_float_min_exact (n : Nat) (v b : Rat) (e : Bool) :
    nativeMin (.float n) v b e = specMin v b e := minimum_iff v b e
/-- unsigned kinds, positive integral factor -/
theorem native_uint_mul_exact (n : Nat) (a : Nat) (b : Int) (hb : 0 < b) :
    nativeMulInt (.uint n) ((a : Int) : Rat) (b : Rat) = some (specMul ((a : Int) : Rat) (b : Rat)) :=
  Values.native_uint_mul_exact n a b hb

/-- integer carriers, integral factor: exact divisibility -/
theorem native_int_mul_exact (n : Nat) (a b : Int) :
    nativeMulInt (.int n) (a : Rat) (b : Rat) = some (specMul (a : Rat) (b : Rat)) := Values.native_int_mul_exact n a b

/-- **carrier independence** (partial: integral bounds): the same number gives the same verdict
    through every signed, unsigned and float kind -/
theorem carrier_independent_partial (k1 k2 : NumKind) (a : Nat) (b : Int) (e : Bool) :
    nativeMax k1 ((a : Int) : Rat) (b : Rat) e = nativeMax k2 ((a : Int) : Rat) (b : Rat) e
    ∧ nativeMin k1 ((a : Int) : Rat) (b : Rat) e = nativeMin k2 ((a : Int) : Rat) (b : Rat) e := by
  have ha : ∀ (k : NumKind) n, k = .uint n → 0 ≤ (a : Int) := fun _ _ _ => Int.natCast_nonneg a
  rw [nativeMax_intCast k1 a b e (ha k1), nativeMax_intCast k2 a b e (ha k2), nativeMin_intCast k1 a b e (ha k1),
    nativeMin_intCast k2 a b e (ha k2)]
  exact ⟨rfl, rfl⟩

/-- … and the same divisibility answer through every signed and unsigned kind, for a positive integral factor -/
theorem carrier_independent_mul_partial (n m : Nat) (a : Nat) (b : Int) (hb : 0 < b) :
    nativeMulInt (.int n) ((a : Int) : Rat) (b : Rat) = nativeMulInt (.uint m) ((a : Int) : Rat) (b : Rat) :=
  (nativeMulInt_uint_eq_int n m a b hb).symm

/-! #### the full statement fails for fractional bounds against integer carriers (known finding):
    the bound is truncated toward zero before the comparison -/

def r52 : Rat := ⟨5, 2, by decide, by decide⟩     -- 2.5
def rm52 : Rat := ⟨-5, 2, by decide, by decide⟩   -- -2.5
def r12 : Rat := ⟨1, 2, by decide, by decide⟩     -- 0.5

/-- `MinimumNativeType(int 2, 2.5)` passes; exact arithmetic rejects (2 < 2.5); a float carrier
    of the same number is rejected -/
theorem witness_fractional_minimum :
    nativeMin (.int 64) 2 r52 false = false ∧ specMin 2 r52 false = true
      ∧ nativeMin (.float 64) 2 r52 false = true := by decide

/-- `MaximumNativeType(int -2, -2.5)` passes; exact arithmetic rejects (-2 > -2.5) -/
theorem witness_fractional_negative_maximum :
    nativeMax (.int 64) (-2) rm52 false = false ∧ specMax (-2) rm52 false = true := by decide

/-- `MultipleOfNativeType(int 3, 0.5)` reports "factor must be positive" (0.5 truncates to 0);
    exact arithmetic says 3 is a multiple of 0.5 -/
theorem witness_fractional_multipleOf :
    nativeMulInt (.int 64) 3 r12 = some .notPositive ∧ specMul 3 r12 = .ok := by
  -- `+kernel`: `Rat` division normalises through `Nat.gcd`, which only the kernel unfolds
  decide +kernel

/-! non-vacuity -/
example : nativeMax (.uint 8) (200 : Int) (-1 : Int) false = true := by decide
example : nativeMin (.int 8) (-3 : Int) (-3 : Int) true = true := by decide

end VM.C13
