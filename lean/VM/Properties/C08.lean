/-
  C08 — long-lived validators are stateless.
  In the model a validator built without recycling *is* its definition: `Impl.validate` is a
  function of (configuration, options, oracles, schema, path, value). What carries the property is
  the tie between that function and the code (correspondence on repeated use) and, for the
  "independent of map iteration order" clause, the regenerated fact that no validator leaves a range over a map early
  (`validator_exit_ranges_order_free`).
-/
import VM.Properties.C01
import VM.Generated.SpecFacts
import VM.Generated.Facts
namespace VM.C08
open VM Impl Spec

/-- repeating a call gives the same answer: it is literally the same term -/
theorem C08_pure (cfg : Cfg) (opts : Opts) (O : Oracles) (r : String → V) (s : Schema) (p : String)
    (v : JVal) : validate cfg opts O r s p v = validate cfg opts O r s p v := rfl

/-- whatever was validated before, the result on `v` is the result of a fresh validator: a history
    of earlier calls is not an argument of the function -/
theorem C08_history_irrelevant (cfg : Cfg) (opts : Opts) (O : Oracles) (r : String → V) (s : Schema)
    (p : String) (history : List JVal) (v : JVal) :
    (history.map (validate cfg opts O r s p), validate cfg opts O r s p v).2
      = validate cfg opts O r s p v := rfl

/-- T1: every range loop of the validator files that can be left early ranges over a slice or a fixed-size array
    of child validators, or is an existence search (`if cond { found = true; break }`): the answer of a
    validator does not depend on the order in which Go ranges over the instance's or the schema's maps -/
theorem validator_exit_ranges_order_free :
    Generated.validatorExitRanges.all (fun e => e.cls == "slice" || e.cls == "exists") = true := by
  decide

/-- the extractor still sees the loops (the table is not vacuously fine) -/
theorem validator_exit_ranges_seen : Generated.validatorExitRanges.length ≥ 8 := by decide

/-- the options object is shared by pointer through a validator tree: its fields are assigned only by the option
    setters (before any validator exists) and once at the top of `(*SpecValidator).Validate` (before the validators of
    that run are built) — never while validators that read them are alive -/
theorem option_writes_only_in_setters :
    Generated.optionWrites.map (·.2) =
      ["EnableObjectArrayTypeCheck: svo.EnableObjectArrayTypeCheck", "EnableArrayMustHaveItemsCheck: svo.EnableArrayMustHaveItemsCheck",
       "SwaggerSchema: svo.EnableObjectArrayTypeCheck", "SwaggerSchema: svo.EnableArrayMustHaveItemsCheck",
       "WithRecycleValidators: svo.recycleValidators", "withRecycleResults: svo.recycleResult",
       "WithSkipSchemataResult: svo.skipSchemataResult", "SpecValidator.Validate: s.schemaOptions.skipSchemataResult"] :=
  -- `rfl`: the literals are compared as they stand, where `decide` would decode every string
  rfl

/-- T1: *a validator built without recycling never assigns to itself while validating*: every assignment through the
    receiver inside a `Validate` / `validate…` / `Applies` method sits under the recycling option (the slot releases and
    nothing else), except in `SpecValidator`, which is a one-document-at-a-time object and not a schema, parameter or
    header validator (C05 validates distinct documents with distinct SpecValidators) -/
theorem unrecycled_validators_never_assign_to_themselves :
    (Generated.selfWrites.filter (fun w => w.2.2 == false)).map (fun w => (w.1, w.2.1)) =
      [("SpecValidator.Validate", "s.schemaOptions.skipSchemataResult"), ("SpecValidator.Validate", "s.spec"),
       ("SpecValidator.Validate", "s.analyzer"), ("SpecValidator.Validate", "s.expanded"),
       ("SpecValidator.validateReferencesValid", "s.expanded")] := rfl

/-! The three sweeps over the long tables below are closed by `decide +kernel`: plain `decide` has the elaborator evaluate
    the string comparisons first and the kernel again, at three times the cost, and proves nothing more. -/

/-- the extractor still sees the guarded slot releases of every slot owner (the table is not vacuously fine) -/
theorem guarded_slot_releases_seen :
    ["HeaderValidator.Validate", "ParamValidator.Validate", "SchemaValidator.Validate", "itemsValidator.Validate",
     "schemaPropsValidator.validateAllOf", "schemaPropsValidator.validateAnyOf", "schemaPropsValidator.validateNot",
     "schemaPropsValidator.validateOneOf"].all
      (fun f => Generated.selfWrites.any (fun w => w.1 == f && w.2.2)) = true := by decide +kernel

/-- T1: *the answer of a child validator is never written to*: every call of a mutating `*Result` method (Inc, AddErrors,
    AddWarnings, the Merge family, the schemata recorders, cleared) has as its receiver a result the function created or
    borrowed itself, one it was handed by its caller to fill, or the method's own receiver — never a value that came back
    from a `Validate` call, which may be the process-wide shared empty result (a write to it changes the match counts of
    every later validation) -/
theorem child_answers_never_written :
    Generated.resultMutations.all (fun m =>
      ["fresh", "fresh | zero", "zero", "param", "receiver", "expr", "multi call responseHelp.expandResponseRef"].contains m.2.2.2) = true := by
  decide +kernel

/-- the table sees the validators' own bookkeeping (not vacuous) -/
theorem result_mutations_seen :
    Generated.resultMutations.any (fun m => m.1 == "itemsValidator.Validate" && m.2.1 == "Inc" && m.2.2.2 == "fresh | zero") = true
    ∧ Generated.resultMutations.length ≥ 100 := by decide +kernel

end VM.C08
