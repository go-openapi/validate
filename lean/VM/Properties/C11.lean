/-
  C11 — a panic during one validation does not corrupt later validations.
-/
import VM.Properties.C04
namespace VM.C11
open VM Generated Expect Protocol

/-- no object is ever redeemed more often than it was borrowed, whatever the validator tree, the
    slot script and the point where the panic is injected (slots released before the call) -/
theorem no_double_redeem (x : Pos) (p : Pos) (v : VT) (k : Option Nat) :
    cR x (run true p v k).evs ≤ cB x (borrowAll p v) + cB x (run true p v k).evs :=
  Nat.le_of_eq (run_bal x p v k)

/-- T1: that is the protocol the source follows now -/
theorem source_releases_slots_first :
    slotOwners.all (fun f => redeemProtocol.any (fun r => r.func == f && r.nilBeforeCall && r.calls > 0)) = true :=
  C04.slots_released_before_call

/-- the pinned snapshot released the slot only after the child returned: a panic inside a called
    child made the parent redeem the (already self-redeemed) child again -/
def t0 : VT := .mk [(.call, .mk [] [])] []
theorem witness_asIs_double_redeem :
    cR [0] (run false [] t0 (some 1)).evs = 2 ∧ cB [0] (borrowAll [] t0) = 1
    ∧ cR [0] (run true [] t0 (some 1)).evs = 1 := by decide

/-- `C04.recycling_invisible` once more: provided the pools are in the relation `Sim` after the recovered panic (assumed
    here, not derived from `run_bal`; a leaked object is simply never reused), later validations are what they are in a
    fresh process. -/
theorem later_outcomes_fresh {H : Type} [DecidableEq H] {R : Type} (later : Pool.Prog H R) (chooser : List (Option Nat))
    (L : Pool.Live H) (σ : Pool.PState H) (τ : H → Pool.Obj) (hd : Pool.Disciplined later L) (hs : Pool.Sim L σ τ) :
    Pool.runPool later chooser σ = Pool.runFresh later τ :=
  C04.recycling_invisible later chooser L σ τ hd hs

end VM.C11
