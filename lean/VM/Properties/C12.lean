/-
  C12 — validation treats its inputs as read-only.
  The model is a pure function, so it cannot express a write to its argument; the property is
  carried by (T1) the regenerated table of write sites with their targets and (T2) deep snapshots
  before and after every call. The theorems below are the obligations on that table: a new
  index/deref/field write through a parameter or an alias of the instance, or a new in-place
  expansion, makes them fail.
-/
import VM.Expect
namespace VM.C12
open VM Generated Expect

/-! Every theorem here is a sweep over a regenerated table of strings, closed by `decide +kernel`: plain `decide` has the
    elaborator evaluate the string comparisons first and the kernel again, at three times the cost, and proves nothing more. -/

/-- every write site found in the non-test sources targets memory the validator owns, or is
    one of the documented in-place reference expansions -/
theorem C12_no_input_writes :
    inputWrites.all (fun w => ownedTarget w || documentedExpansion w) = true := by
  decide +kernel

/-- no write at all goes through a parameter or alias that holds the instance -/
theorem C12_instance_never_written :
    inputWrites.all (fun w => w.target != "param-instance" && w.target != "local-instance-alias"
      && w.target != "local-instance-typed") = true := by decide +kernel

/-- the scratch copies of property schemas are pool objects, not the caller's map entries
    (object_validator.go:339-357, 401-423) -/
theorem scratch_copy_used :
    (inputWrites.filter (fun w => w.func == "objectValidator.validatePropertiesSchema" && w.expr == "deref *pSchema")).all
      (fun w => w.target == "local-borrowed") = true
    ∧ (inputWrites.filter (fun w => w.func == "objectValidator.validatePatternProperty" && w.expr == "deref *schema")).all
      (fun w => w.target == "local-borrowed") = true := by decide +kernel

/-- the default and example stages walk *copies* of the caller's definitions: judging a value builds a schema
    validator, which expands the `$ref` below the schema in place (`documentedExpansion`), and that must not
    happen in the document being validated (fixed defect C12-definition-refs-expanded-in-document) -/
theorem definitions_walked_on_copies :
    definitionWalks.all (fun w => w.2.2) = true
    ∧ (definitionWalks.map (·.1)).contains "defaultValidator.validateDefaultValueValidAgainstSchema" = true
    ∧ (definitionWalks.map (·.1)).contains "exampleValidator.validateExampleValueValidAgainstSchema" = true := by decide +kernel

/-- `(*SpecValidator).Validate` builds the Swagger-schema validator over a *copy* of the schema it was constructed with: building
    it expands the schema's `$ref` in place, and on the caller's object (a document's own copy of the Swagger schema) every further
    validation expanded the remaining circular references one level more — the schema grew with each call and, depending on map
    order inside the expander, without bound (fixed defect C07-document-schema-grows-on-revalidation) -/
theorem swagger_schema_validated_on_a_copy :
    (schemaValidatorArgs.filter (fun a => a.1 == "SpecValidator.Validate")) = [("SpecValidator.Validate", "scratchSchema(s.schema)")]
    ∧ (schemaValidatorArgs.filter (fun a => a.1 == "SpecValidator.validateParameters")) = [("SpecValidator.validateParameters", "&paramSchema")] := by
  decide +kernel

/-- non-vacuity: the table is not empty and does contain the scratch-copy writes -/
example : inputWrites.length > 20 := by decide
example : (inputWrites.filter (fun w => w.target == "local-borrowed")).length = 2 := by decide

end VM.C12
