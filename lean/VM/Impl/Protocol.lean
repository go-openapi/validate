/-
  C04 (d1) / C11 — the redeem protocol of the validator tree as an event generator.

  A validator (`VT`) has pre-built children in slots — each marked with what the parent's loop
  will do to it (`unvisited`: an early exit leaves it untouched; `notApplies`: relinquished without
  running; `call`: validated) — and children it builds and runs on the fly (`dyn`, the object and
  slice validators do that). `run nilBefore p v k` emits the borrow (`B`) / redeem (`R`) events
  of validating `v` at tree position `p` with a panic injected at the `k`-th validator entry;
  `nilBefore` says whether the parent nils a slot before or after calling the child
  (the pinned snapshot did it *after*, schema.go:226-229 there; the source as it is does it before:
  `C04.slots_released_before_call`).
-/
namespace VM.Protocol

abbrev Pos := List Nat

inductive Ev where
  | B (i : Pos) | R (i : Pos)
  deriving DecidableEq, Repr

inductive Act where
  | unvisited | notApplies | call
  deriving DecidableEq, Repr

-- a validator: pre-built children in slots (with what the parent's loop will do to each slot),
-- and children it builds and runs on the fly while validating (object / slice validators)
inductive VT where
  | mk (kids : List (Act × VT)) (dyn : List VT)

def cR (i : Pos) (es : List Ev) : Nat := es.count (Ev.R i)
def cB (i : Pos) (es : List Ev) : Nat := es.count (Ev.B i)
@[simp] theorem cR_app i a b : cR i (a ++ b) = cR i a + cR i b := List.count_append
@[simp] theorem cB_app i a b : cB i (a ++ b) = cB i a + cB i b := List.count_append
@[simp] theorem cR_nil i : cR i [] = 0 := rfl
@[simp] theorem cB_nil i : cB i [] = 0 := rfl
@[simp] theorem cR_consB i p es : cR i (Ev.B p :: es) = cR i es :=
  List.count_cons_of_ne (a := Ev.R i) (b := Ev.B p) nofun
@[simp] theorem cB_consR i p es : cB i (Ev.R p :: es) = cB i es :=
  List.count_cons_of_ne (a := Ev.B i) (b := Ev.R p) nofun
@[simp] theorem cR_consR i p es : cR i (Ev.R p :: es) = [p].count i + cR i es := by
  simp [cR, List.count_cons, Nat.add_comm]
@[simp] theorem cB_consB i p es : cB i (Ev.B p :: es) = [p].count i + cB i es := by
  simp [cB, List.count_cons, Nat.add_comm]

mutual
def borrowAll : Pos → VT → List Ev
  | p, .mk kids _ => Ev.B p :: borrowKids p 0 kids
def borrowKids : Pos → Nat → List (Act × VT) → List Ev
  | _, _, [] => []
  | p, i, (_, v) :: rest => borrowAll (p ++ [i]) v ++ borrowKids p (i+1) rest
end

mutual
def redeemAll : Pos → VT → List Ev        -- redeemChildren(); redeem()  on a validator that has not run
  | p, .mk kids _ => redeemKids p 0 kids ++ [Ev.R p]
def redeemKids : Pos → Nat → List (Act × VT) → List Ev
  | _, _, [] => []
  | p, i, (_, v) :: rest => redeemAll (p ++ [i]) v ++ redeemKids p (i+1) rest
end

structure Out where
  evs : List Ev
  panicked : Bool
  k : Option Nat          -- remaining validator entries before the injected panic

structure KOut where
  evs : List Ev
  panicked : Bool
  k : Option Nat
  deferred : List Ev      -- what the parent's deferred redeemChildren will emit for slots still set

def tick : Option Nat → Option Nat
  | some (n+1) => some n
  | x => x

mutual
def run (nilBefore : Bool) : Pos → VT → Option Nat → Out
  | p, .mk kids dyn, k =>
    match k with
    | some 0 => ⟨redeemKids p 0 kids ++ [Ev.R p], true, some 0⟩   -- panic on entry; own defer runs
    | _ =>
      let r := runKids nilBefore p 0 kids (tick k)
      if r.panicked then ⟨r.evs ++ r.deferred ++ [Ev.R p], true, r.k⟩
      else
        let d := runDyn nilBefore p 1000 dyn r.k
        ⟨r.evs ++ d.evs ++ r.deferred ++ [Ev.R p], d.panicked, d.k⟩
def runKids (nilBefore : Bool) : Pos → Nat → List (Act × VT) → Option Nat → KOut
  | _, _, [], k => ⟨[], false, k, []⟩
  | p, i, (.unvisited, v) :: rest, k =>
    let r := runKids nilBefore p (i+1) rest k
    ⟨r.evs, r.panicked, r.k, redeemAll (p ++ [i]) v ++ r.deferred⟩
  | p, i, (.notApplies, v) :: rest, k =>
    let r := runKids nilBefore p (i+1) rest k
    ⟨redeemAll (p ++ [i]) v ++ r.evs, r.panicked, r.k, r.deferred⟩
  | p, i, (.call, v) :: rest, k =>
    let c := run nilBefore (p ++ [i]) v k
    if c.panicked then
      -- the slot is still set iff it is nilled only after the call returns:
      -- the parent's deferred redeemChildren then redeems the (already self-redeemed) child again
      ⟨c.evs, true, c.k, (if nilBefore then [] else [Ev.R (p ++ [i])]) ++ redeemKids p (i+1) rest⟩
    else
      let r := runKids nilBefore p (i+1) rest c.k
      ⟨c.evs ++ r.evs, r.panicked, r.k, r.deferred⟩
def runDyn (nilBefore : Bool) : Pos → Nat → List VT → Option Nat → Out
  | _, _, [], k => ⟨[], false, k⟩
  | p, j, v :: rest, k =>
    let c := run nilBefore (p ++ [j]) v k
    if c.panicked then ⟨borrowAll (p ++ [j]) v ++ c.evs, true, c.k⟩
    else
      let r := runDyn nilBefore p (j+1) rest c.k
      ⟨borrowAll (p ++ [j]) v ++ c.evs ++ r.evs, r.panicked, r.k⟩
end


end VM.Protocol
