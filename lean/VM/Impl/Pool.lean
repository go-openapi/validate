/-
  C04 / C05 — object pools and their clients.

  * `Prog`: client programs as a free monad over borrow / write / read / redeem, with
    program-chosen handles (no physical identity leaks to the client).
  * `runFresh`: the specification — every borrow is a brand-new zeroed object.
  * `runPool`: the implementation — `sync.Pool`: a borrow takes *any* pooled object (stale
    contents and all) or allocates; which one is a parameter (`chooser`), because `sync.Pool`
    promises nothing more.
  * `Disciplined`: (d1) redeem only what you hold, once; (d2) write every field after borrow
    before reading it; (d3) touch nothing after its redeem.
-/
namespace VM.Pool

abbrev Field := Nat
abbrev Val := Nat
abbrev Obj := Field → Val

/-- client programs over handles of type `H` (program-chosen names for borrowed objects) -/
inductive Prog (H : Type) (R : Type) where
  | ret (r : R)
  | borrow (h : H) (k : Prog H R)
  | write (h : H) (f : Field) (v : Val) (k : Prog H R)
  | read (h : H) (f : Field) (k : Val → Prog H R)
  | redeem (h : H) (k : Prog H R)

def upd {α β} [DecidableEq α] (m : α → β) (a : α) (b : β) : α → β := fun x => if x = a then b else m x

@[simp] theorem upd_same {α β} [DecidableEq α] (m : α → β) a b : upd m a b a = b := if_pos rfl
@[simp] theorem upd_other {α β} [DecidableEq α] (m : α → β) a b x (h : x ≠ a) : upd m a b x = m x := if_neg h

theorem upd_congr {α β} [DecidableEq α] {m m' : α → β} {x : α} (a : α) (b : β) (e : m x = m' x) :
    upd m a b x = upd m' a b x := by
  unfold upd; split
  · rfl
  · exact e

theorem upd_eq {α β} [DecidableEq α] {m : α → β} {a x : α} {b y : β} (e : upd m a b x = y) :
    x = a ∧ b = y ∨ x ≠ a ∧ m x = y := by
  unfold upd at e; split at e
  · exact .inl ⟨‹_›, e⟩
  · exact .inr ⟨‹_›, e⟩

variable {H : Type} [DecidableEq H]

-- fresh semantics: every borrow is a brand-new zeroed object, named by its handle
def runFresh {R} : Prog H R → (H → Obj) → R
  | .ret r, _ => r
  | .borrow h k, τ => runFresh k (upd τ h (fun _ => 0))
  | .write h f v k, τ => runFresh k (upd τ h (upd (τ h) f v))
  | .read h f k, τ => runFresh (k (τ h f)) τ
  | .redeem _ k, τ => runFresh k τ

structure PState (H : Type) where
  phys : H → Nat          -- physical object currently behind a handle
  mem  : Nat → Obj             -- physical memory (stale contents survive redeem)
  free : List Nat              -- the pool
  next : Nat                   -- allocation counter

-- chooser: at each borrow, `some i` = take the i-th pooled object if there is one, else allocate
def takeAt : List Nat → Nat → Option (Nat × List Nat)
  | [], _ => none
  | x :: xs, 0 => some (x, xs)
  | x :: xs, i+1 => (takeAt xs i).map fun (y, ys) => (y, x :: ys)

def runPool {R} : Prog H R → List (Option Nat) → PState H → R
  | .ret r, _, _ => r
  | .borrow h k, ch, σ =>
    let (c, ch') := match ch with | [] => (none, []) | c :: cs => (c, cs)
    match c.bind (takeAt σ.free) with
    | some (p, rest) => runPool k ch' { σ with phys := upd σ.phys h p, free := rest }
    | none => runPool k ch' { σ with phys := upd σ.phys h σ.next, next := σ.next + 1 }
  | .write h f v k, ch, σ => runPool k ch { σ with mem := upd σ.mem (σ.phys h) (upd (σ.mem (σ.phys h)) f v) }
  | .read h f k, ch, σ => runPool (k (σ.mem (σ.phys h) f)) ch σ
  | .redeem h k, ch, σ => runPool k ch { σ with free := σ.phys h :: σ.free }

abbrev Live (H : Type) := H → Option (Field → Bool)

def Disciplined {R} : Prog H R → Live H → Prop
  | .ret _, _ => True
  | .borrow h k, L => L h = none ∧ Disciplined k (upd L h (some fun _ => false))
  | .write h f _ k, L => ∃ w, L h = some w ∧ Disciplined k (upd L h (some (upd w f true)))
  | .read h f k, L => ∃ w, L h = some w ∧ w f = true ∧ ∀ v, Disciplined (k v) L
  | .redeem h k, L => (∃ w, L h = some w) ∧ Disciplined k (upd L h none)

structure Sim (L : Live H) (σ : PState H) (τ : H → Obj) : Prop where
  agree : ∀ h w, L h = some w → ∀ f, w f = true → σ.mem (σ.phys h) f = τ h f
  notfree : ∀ h w, L h = some w → σ.phys h ∉ σ.free
  inj : ∀ h h' w w', L h = some w → L h' = some w' → σ.phys h = σ.phys h' → h = h'
  nodup : σ.free.Nodup
  bound : (∀ p ∈ σ.free, p < σ.next) ∧ (∀ h w, L h = some w → σ.phys h < σ.next)


end VM.Pool
